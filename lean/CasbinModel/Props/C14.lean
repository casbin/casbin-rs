import CasbinModel.Lemmas.Shape
import CasbinModel.Lemmas.AutoSave
/-!
# C14 — Change notifications are a faithful changelog

`log` is what the watcher received.  With notifications live (`autoNotify`, one handler, watcher set) and the adapter not
vetoing, each internal operation appends exactly one event iff the store changed, carrying exactly the rules added /
removed; `clear_policy` appends exactly one (role definitions of at least two places, or auto-build off), `save_policy` at
most one.  Folding the delivered events into a replica that equals the store yields the new store (`applyEvent`).  The
number of registered handlers is `1` with notifications on and `0` with them off, after any toggles.

Histories (one induction, `history_follows`; a replica follows up to `SEq`) carry one of four invariants: `ReadyAny` =
notifications live + rule lists duplicate free; `Ready` = `ReadyAny` + auto-save off; `ReadyAll` = `ReadyAny` + every role
definition has at least two places; `Ready2` = `Ready` + the same.  The theorems `_any` (five calls, `ReadyAny`) and `_all`
(also clear and save, `ReadyAll`) are the general ones; the unmarked (`Ready`) and `_full` (`Ready2`) weaken them.
-/
namespace Casbin.C14
open Casbin

/-- notifications are on and are delivered exactly once -/
structure Live (e : Enforcer) : Prop where
  notify : e.autoNotify = true
  one : e.callbacks = 1
  watcher : e.hasWatcher = true

theorem Live.notes {e : Enforcer} (h : Live e) (ev : Event) : e.notes ev = [ev] := by
  unfold Enforcer.notes
  rw [if_pos h.watcher, h.one]; rfl

theorem Live.of_eq {e e' : Enforcer} (h : Live e) (h1 : e'.autoNotify = e.autoNotify) (h2 : e'.callbacks = e.callbacks)
    (h3 : e'.hasWatcher = e.hasWatcher) : Live e' :=
  ⟨h1.trans h.notify, h2.trans h.one, h3.trans h.watcher⟩

theorem Live.adapter {e : Enforcer} (h : Live e) (a : AdapterSt) : Live { e with adapter := a } := h.of_eq rfl rfl rfl

/-- toggling establishes the handler-count invariant, whatever preceded (regression for F9) -/
theorem toggle_callbacks (e : Enforcer) (b : Bool) :
    (e.enableAutoNotify b).callbacks = (if b then 1 else 0) ∧ (e.enableAutoNotify b).autoNotify = b :=
  ⟨rfl, rfl⟩

theorem toggle_twice (e : Enforcer) : ((e.enableAutoNotify true).enableAutoNotify true).callbacks = 1 := rfl

/-- how a replica applies one event -/
def applyEvent (s : Store) : Event → Store
  | .addPolicy sec pt r => (s.addPolicy sec pt r).1
  | .addPolicies sec pt rs => rs.foldl (fun s r => (s.addPolicy sec pt r).1) s
  | .removePolicy sec pt r => (s.removePolicy sec pt r).1
  | .removePolicies sec pt rs => rs.foldl (fun s r => (s.removePolicy sec pt r).1) s
  | .removeFiltered sec pt rs => rs.foldl (fun s r => (s.removePolicy sec pt r).1) s
  | .savePolicy _ => s
  | .clearPolicy => s.clear

/-! ### One call -/

/-- the events the model-side step of `m` on `s` announces -/
def says (m : Mgmt) (s : Store) : List Event := if (m.step s).2.1 then [m.event (m.step s).2.2] else []

/-- **`mgmtGo` delivers one event, carrying exactly the rules concerned, iff the store operation reports a change** -/
theorem mgmtGo_notifies (e : Enforcer) (hl : Live e) (m : Mgmt) :
    (e.mgmtGo m).1.store = (m.step e.store).1 ∧
    (e.mgmtGo m).1.log = e.log ++ says m e.store ∧ Live (e.mgmtGo m).1 := by
  rw [mgmtGo_eq]
  refine ⟨rfl, ?_, hl.of_eq rfl rfl rfl⟩
  show e.log ++ e.mgmtNotes m = _
  unfold Enforcer.mgmtNotes says
  rw [hl.notify, Bool.and_true, hl.notes]

/-! `mgmtGo_notifies` in the words of each call, auto-save off -/

/-- **add / remove deliver exactly one event iff the store changed, carrying that rule** -/
theorem add_notifies (e : Enforcer) (sec pt : String) (rule : Rule) (hs : e.autoSave = false) (hl : Live e) :
    let r := e.addPolicy sec pt rule
    let changed := (e.store.addPolicy sec pt rule).2
    r.1.store = (e.store.addPolicy sec pt rule).1 ∧
    r.1.log = e.log ++ (if changed then [Event.addPolicy sec pt rule] else []) := by
  rw [Enforcer.addPolicy_eq, mgmt_off e hs]
  exact ⟨(mgmtGo_notifies e hl _).1, (mgmtGo_notifies e hl _).2.1⟩

theorem remove_notifies (e : Enforcer) (sec pt : String) (rule : Rule) (hs : e.autoSave = false) (hl : Live e) :
    let r := e.removePolicy sec pt rule
    let changed := (e.store.removePolicy sec pt rule).2
    r.1.store = (e.store.removePolicy sec pt rule).1 ∧
    r.1.log = e.log ++ (if changed then [Event.removePolicy sec pt rule] else []) := by
  rw [Enforcer.removePolicy_eq, mgmt_off e hs]
  exact ⟨(mgmtGo_notifies e hl _).1, (mgmtGo_notifies e hl _).2.1⟩

theorem addPolicies_notifies (e : Enforcer) (sec pt : String) (rules : List Rule) (hs : e.autoSave = false) (hl : Live e) :
    let r := e.addPolicies sec pt rules
    let changed := (e.store.addPolicies sec pt rules).2
    r.1.store = (e.store.addPolicies sec pt rules).1 ∧
    r.1.log = e.log ++ (if changed then [Event.addPolicies sec pt rules] else []) := by
  rw [Enforcer.addPolicies_eq, mgmt_off e hs]
  exact ⟨(mgmtGo_notifies e hl _).1, (mgmtGo_notifies e hl _).2.1⟩

theorem removePolicies_notifies (e : Enforcer) (sec pt : String) (rules : List Rule) (hs : e.autoSave = false) (hl : Live e) :
    let r := e.removePolicies sec pt rules
    let changed := (e.store.removePolicies sec pt rules).2
    r.1.store = (e.store.removePolicies sec pt rules).1 ∧
    r.1.log = e.log ++ (if changed then [Event.removePolicies sec pt rules] else []) := by
  rw [Enforcer.removePolicies_eq, mgmt_off e hs]
  exact ⟨(mgmtGo_notifies e hl _).1, (mgmtGo_notifies e hl _).2.1⟩

theorem removeFiltered_notifies (e : Enforcer) (sec pt : String) (idx : Nat) (vals : List String)
    (hs : e.autoSave = false) (hl : Live e) :
    let r := e.removeFiltered sec pt idx vals
    let m := e.store.removeFiltered sec pt idx vals
    r.1.store = m.1 ∧
    r.1.log = e.log ++ (if m.2.1 then [Event.removeFiltered sec pt m.2.2] else []) := by
  rw [Enforcer.removeFiltered_eq, mgmt_off e hs]
  exact ⟨(mgmtGo_notifies e hl _).1, (mgmtGo_notifies e hl _).2.1⟩

/-- **store level: replaying the event a store operation announces** (none if it reports no change) **gives the rule lists it
leaves**; `hw`: needed by the filtered removal only (the one call with `listed`): erasing the announced rules one at a time
removes every copy only if the list has no duplicates -/
theorem says_getPolicy {m : Mgmt} (hm : m.Std) (s : Store) (hw : m.listed = true → s.WF) :
    ((says m s).foldl applyEvent s).getPolicy = (m.step s).1.getPolicy := by
  funext sec' pt'
  unfold says
  cases hc : (m.step s).2.1 with
  | false => rw [hm.getPolicy, hc, if_neg (fun h => Bool.false_ne_true (And.left h))]; rfl
  | true =>
    rw [if_pos rfl]
    cases hm with
    | add sec pt rule => rfl
    | remove sec pt rule => rfl
    | addMany sec pt rules =>
      replace hc : (s.addPolicies sec pt rules).2 = true := hc
      show (rules.foldl (fun s r => (s.addPolicy sec pt r).1) s).getPolicy sec' pt' = (s.addPolicies sec pt rules).1.getPolicy sec' pt'
      rw [Store.foldAdd_getPolicy, Store.addPolicies_fst, if_pos hc]
    | removeMany sec pt rules =>
      replace hc : (s.removePolicies sec pt rules).2 = true := hc
      show (rules.foldl (fun s r => (s.removePolicy sec pt r).1) s).getPolicy sec' pt' =
        (s.removePolicies sec pt rules).1.getPolicy sec' pt'
      rw [Store.foldRemove_getPolicy, Store.removePolicies_fst, if_pos hc]
    | removeFiltered sec pt idx vals =>
      replace hc : (s.removeFiltered sec pt idx vals).2.1 = true := hc
      show ((s.removeFiltered sec pt idx vals).2.2.foldl (fun s r => (s.removePolicy sec pt r).1) s).getPolicy sec' pt' =
        (s.removeFiltered sec pt idx vals).1.getPolicy sec' pt'
      rw [Store.foldRemove_getPolicy, Store.removeFiltered_fst, if_pos hc, Store.removeFiltered_snd,
        if_neg ((s.removeFiltered_flag sec pt idx vals).1 hc).1, Store.getPolicy_modify, Store.getPolicy_modify]
      split
      · rename_i hk
        obtain ⟨⟨rfl, rfl⟩, _⟩ := hk
        exact OrdSet.removeAll_filter (hw rfl sec pt) _
      · rfl

/-! `says_getPolicy` in the words of each call, auto-save off -/

theorem replica_follows_mgmtGo (e : Enforcer) (hl : Live e) {m : Mgmt} (hm : m.Std) (hw : m.listed = true → e.store.WF) :
    (((e.mgmtGo m).1.log.drop e.log.length).foldl applyEvent e.store).getPolicy = (e.mgmtGo m).1.store.getPolicy := by
  obtain ⟨h1, h2, _⟩ := mgmtGo_notifies e hl m
  rw [h1, h2, List.drop_left]
  exact says_getPolicy hm e.store hw

/-- **Replica follows (single add / remove)**: folding the delivered events into a replica equal to the store gives the new
store. -/
theorem replica_follows_add (e : Enforcer) (sec pt : String) (rule : Rule) (hs : e.autoSave = false) (hl : Live e) :
    let r := e.addPolicy sec pt rule
    ((r.1.log.drop e.log.length).foldl applyEvent e.store).getPolicy = r.1.store.getPolicy := by
  rw [Enforcer.addPolicy_eq, mgmt_off e hs]
  exact replica_follows_mgmtGo e hl (.add sec pt rule) nofun

/-- **Replica follows a single removal** -/
theorem replica_follows_remove (e : Enforcer) (sec pt : String) (rule : Rule) (hs : e.autoSave = false) (hl : Live e) :
    let r := e.removePolicy sec pt rule
    ((r.1.log.drop e.log.length).foldl applyEvent e.store).getPolicy = r.1.store.getPolicy := by
  rw [Enforcer.removePolicy_eq, mgmt_off e hs]
  exact replica_follows_mgmtGo e hl (.remove sec pt rule) nofun

/-- **Replica follows a batch addition**, applied rule by rule -/
theorem replica_follows_addPolicies (e : Enforcer) (sec pt : String) (rules : List Rule) (hs : e.autoSave = false) (hl : Live e) :
    let r := e.addPolicies sec pt rules
    ((r.1.log.drop e.log.length).foldl applyEvent e.store).getPolicy = r.1.store.getPolicy := by
  rw [Enforcer.addPolicies_eq, mgmt_off e hs]
  exact replica_follows_mgmtGo e hl (.addMany sec pt rules) nofun

/-- **Replica follows a batch removal** -/
theorem replica_follows_removePolicies (e : Enforcer) (sec pt : String) (rules : List Rule) (hs : e.autoSave = false) (hl : Live e) :
    let r := e.removePolicies sec pt rules
    ((r.1.log.drop e.log.length).foldl applyEvent e.store).getPolicy = r.1.store.getPolicy := by
  rw [Enforcer.removePolicies_eq, mgmt_off e hs]
  exact replica_follows_mgmtGo e hl (.removeMany sec pt rules) nofun

/-- **Replica follows a filtered removal**, the delivered rules removed one by one from a duplicate-free store -/
theorem replica_follows_removeFiltered (e : Enforcer) (sec pt : String) (idx : Nat) (vals : List String)
    (hs : e.autoSave = false) (hl : Live e) (hw : e.store.WF) :
    let r := e.removeFiltered sec pt idx vals
    ((r.1.log.drop e.log.length).foldl applyEvent e.store).getPolicy = r.1.store.getPolicy := by
  rw [Enforcer.removeFiltered_eq, mgmt_off e hs]
  exact replica_follows_mgmtGo e hl (.removeFiltered sec pt idx vals) fun _ => hw

/-- when the adapter fails or vetoes, nothing is delivered -/
theorem rejected_add_silent (e : Enforcer) (sec pt : String) (rule : Rule) (hs : e.autoSave = true)
    (f : Fault) (rest : List Fault) (hp : e.adapter.plan = f :: rest) (hf : f = .err ∨ f = .refuse) :
    (e.addPolicy sec pt rule).1.log = e.log := by
  rw [Enforcer.addPolicy_eq, mgmt_rejected e _ hs hp (by rcases hf with h | h <;> subst h <;> decide)]

/-! ### Replicas up to `SEq` -/

/-- two stores hold the same rule lists under the same policy types -/
def SEq (s1 s2 : Store) : Prop :=
  (∀ sec pt, (s1.find sec pt).isSome = (s2.find sec pt).isSome) ∧ s1.getPolicy = s2.getPolicy

theorem SEq.refl (s : Store) : SEq s s := ⟨fun _ _ => rfl, rfl⟩
theorem SEq.trans {a b c : Store} (h1 : SEq a b) (h2 : SEq b c) : SEq a c :=
  ⟨fun sec pt => (h1.1 sec pt).trans (h2.1 sec pt), h1.2.trans h2.2⟩

theorem SEq.modify {s1 s2 : Store} (h : SEq s1 s2) (sec pt : String) (g : List Rule → List Rule) :
    SEq (s1.modify sec pt g) (s2.modify sec pt g) := by
  refine ⟨fun sec' pt' => ?_, funext fun sec' => funext fun pt' => ?_⟩
  · rw [Store.find_isSome_modify, Store.find_isSome_modify, h.1]
  · rw [Store.getPolicy_modify, Store.getPolicy_modify, h.1, h.2]

theorem SEq.addPolicy {s1 s2 : Store} (h : SEq s1 s2) (sec pt : String) (r : Rule) :
    SEq (s1.addPolicy sec pt r).1 (s2.addPolicy sec pt r).1 := by
  rw [Store.addPolicy_fst, Store.addPolicy_fst]; exact h.modify sec pt _

theorem SEq.removePolicy {s1 s2 : Store} (h : SEq s1 s2) (sec pt : String) (r : Rule) :
    SEq (s1.removePolicy sec pt r).1 (s2.removePolicy sec pt r).1 := by
  rw [Store.removePolicy_fst, Store.removePolicy_fst]; exact h.modify sec pt _

theorem SEq.foldl {α : Type} {f : Store → α → Store} (hf : ∀ s1 s2 a, SEq s1 s2 → SEq (f s1 a) (f s2 a)) (l : List α)
    {s1 s2 : Store} (h : SEq s1 s2) : SEq (l.foldl f s1) (l.foldl f s2) := by
  induction l generalizing s1 s2 with
  | nil => exact h
  | cons a l ih => exact ih (hf _ _ a h)

/-- a replica applies an event the same way whatever its internal representation -/
theorem applyEvent_congr {s1 s2 : Store} (h : SEq s1 s2) (ev : Event) : SEq (applyEvent s1 ev) (applyEvent s2 ev) := by
  cases ev with
  | addPolicy sec pt r => exact h.addPolicy sec pt r
  | addPolicies sec pt rs => exact SEq.foldl (fun _ _ r h => h.addPolicy sec pt r) rs h
  | removePolicy sec pt r => exact h.removePolicy sec pt r
  | removePolicies sec pt rs => exact SEq.foldl (fun _ _ r h => h.removePolicy sec pt r) rs h
  | removeFiltered sec pt rs => exact SEq.foldl (fun _ _ r h => h.removePolicy sec pt r) rs h
  | savePolicy _ => exact h
  | clearPolicy =>
    refine ⟨fun sec' pt' => ?_, funext fun sec' => funext fun pt' => ?_⟩
    · show (s1.clear.find sec' pt').isSome = (s2.clear.find sec' pt').isSome
      rw [Store.find_isSome_clear, Store.find_isSome_clear, h.1]
    · show s1.clear.getPolicy sec' pt' = s2.clear.getPolicy sec' pt'
      rw [Store.getPolicy_clear, Store.getPolicy_clear]

theorem foldl_find {α : Type} {f : Store → α → Store}
    (hf : ∀ s a sec pt, ((f s a).find sec pt).isSome = (s.find sec pt).isSome) (l : List α) (s : Store) (sec pt : String) :
    ((l.foldl f s).find sec pt).isSome = (s.find sec pt).isSome := by
  induction l generalizing s with
  | nil => rfl
  | cons a l ih => rw [List.foldl_cons, ih, hf]

theorem applyEvent_find (s : Store) (ev : Event) (sec pt : String) :
    ((applyEvent s ev).find sec pt).isSome = (s.find sec pt).isSome := by
  have hadd (sec' pt' : String) (s : Store) (r : Rule) (sec pt : String) :
      ((s.addPolicy sec' pt' r).1.find sec pt).isSome = (s.find sec pt).isSome := by
    rw [Store.addPolicy_fst, Store.find_isSome_modify]
  have hrem (sec' pt' : String) (s : Store) (r : Rule) (sec pt : String) :
      ((s.removePolicy sec' pt' r).1.find sec pt).isSome = (s.find sec pt).isSome := by
    rw [Store.removePolicy_fst, Store.find_isSome_modify]
  cases ev with
  | addPolicy sec' pt' r => exact hadd sec' pt' s r sec pt
  | addPolicies sec' pt' rs => exact foldl_find (hadd sec' pt') rs s sec pt
  | removePolicy sec' pt' r => exact hrem sec' pt' s r sec pt
  | removePolicies sec' pt' rs => exact foldl_find (hrem sec' pt') rs s sec pt
  | removeFiltered sec' pt' rs => exact foldl_find (hrem sec' pt') rs s sec pt
  | savePolicy _ => rfl
  | clearPolicy => exact Store.find_isSome_clear ..

theorem says_SEq {m : Mgmt} (h : m.Std) (s : Store) (hw : s.WF) : SEq ((says m s).foldl applyEvent s) (m.step s).1 := by
  refine ⟨fun sec pt => ?_, says_getPolicy h s fun _ => hw⟩
  rw [foldl_find applyEvent_find, h.find_isSome]

/-! ### Histories of the five calls -/

/-- the five internal management calls -/
inductive NOp where
  | add (sec pt : String) (rule : Rule)
  | remove (sec pt : String) (rule : Rule)
  | addMany (sec pt : String) (rules : List Rule)
  | removeMany (sec pt : String) (rules : List Rule)
  | removeFiltered (sec pt : String) (idx : Nat) (vals : List String)

def NOp.run (e : Enforcer) : NOp → Enforcer
  | .add sec pt rule => (e.addPolicy sec pt rule).1
  | .remove sec pt rule => (e.removePolicy sec pt rule).1
  | .addMany sec pt rules => (e.addPolicies sec pt rules).1
  | .removeMany sec pt rules => (e.removePolicies sec pt rules).1
  | .removeFiltered sec pt idx vals => (e.removeFiltered sec pt idx vals).1

def NOp.desc : NOp → Mgmt
  | .add sec pt rule => .add sec pt rule
  | .remove sec pt rule => .remove sec pt rule
  | .addMany sec pt rules => .addMany sec pt rules
  | .removeMany sec pt rules => .removeMany sec pt rules
  | .removeFiltered sec pt idx vals => .removeFiltered sec pt idx vals

theorem NOp.desc_std (op : NOp) : op.desc.Std := by cases op <;> constructor

theorem NOp.run_eq (e : Enforcer) (op : NOp) : op.run e = (e.mgmt op.desc).1 := by
  cases op with
  | add sec pt rule => exact congrArg Prod.fst (e.addPolicy_eq sec pt rule)
  | remove sec pt rule => exact congrArg Prod.fst (e.removePolicy_eq sec pt rule)
  | addMany sec pt rules => exact congrArg Prod.fst (e.addPolicies_eq sec pt rules)
  | removeMany sec pt rules => exact congrArg Prod.fst (e.removePolicies_eq sec pt rules)
  | removeFiltered sec pt idx vals => exact congrArg Prod.fst (e.removeFiltered_eq sec pt idx vals)

structure Ready (e : Enforcer) : Prop where
  save : e.autoSave = false
  live : Live e
  wf : e.store.WF

structure ReadyAny (e : Enforcer) : Prop where
  live : Live e
  wf : e.store.WF

/-- one call, auto-save on or off, whatever the adapter answers: stopped at the adapter it delivers nothing and changes no
rule, otherwise `mgmtGo` delivers what the replica needs -/
theorem mgmt_follows (e : Enforcer) (h : ReadyAny e) (m : Mgmt) (hm : m.Std) :
    (∃ evs, (e.mgmt m).1.log = e.log ++ evs ∧ SEq (evs.foldl applyEvent e.store) (e.mgmt m).1.store) ∧
    ReadyAny (e.mgmt m).1 := by
  rcases mgmt_cases e m with ⟨res, _, _, h1, _⟩ | ⟨a, _, _, h1⟩
  · rw [h1]
    exact ⟨⟨[], (List.append_nil _).symm, SEq.refl _⟩, h.live.adapter _, h.wf⟩
  · rw [h1]
    obtain ⟨n1, n2, n3⟩ := mgmtGo_notifies ({ e with adapter := a } : Enforcer) (h.live.adapter a) m
    refine ⟨⟨says m e.store, n2, ?_⟩, n3, ?_⟩
    · rw [n1]; exact says_SEq hm e.store h.wf
    · rw [n1]; exact hm.wf e.store h.wf

theorem step_follows_any (e : Enforcer) (h : ReadyAny e) (op : NOp) :
    (∃ evs, (op.run e).log = e.log ++ evs ∧ SEq (evs.foldl applyEvent e.store) (op.run e).store) ∧
    ReadyAny (op.run e) := by
  rw [NOp.run_eq]; exact mgmt_follows e h _ op.desc_std

theorem step_follows (e : Enforcer) (h : Ready e) (op : NOp) :
    ∃ evs, (op.run e).log = e.log ++ evs ∧ SEq (evs.foldl applyEvent e.store) (op.run e).store :=
  (step_follows_any e ⟨h.live, h.wf⟩ op).1

/-- the induction all history theorems share: an invariant `P` under which every step is followed by the replica -/
theorem history_follows {Op : Type} (run : Enforcer → Op → Enforcer) (P : Enforcer → Prop)
    (step : ∀ e, P e → ∀ op, (∃ evs, (run e op).log = e.log ++ evs ∧ SEq (evs.foldl applyEvent e.store) (run e op).store) ∧
      P (run e op))
    (ops : List Op) (e : Enforcer) (h : P e) :
    ∃ evs, (ops.foldl run e).log = e.log ++ evs ∧ SEq (evs.foldl applyEvent e.store) (ops.foldl run e).store := by
  induction ops generalizing e with
  | nil => exact ⟨[], (List.append_nil _).symm, SEq.refl _⟩
  | cons op ops ih =>
    obtain ⟨⟨ev1, hl1, hs1⟩, hnext⟩ := step e h op
    obtain ⟨evs', hl2, hs2⟩ := ih (run e op) hnext
    refine ⟨ev1 ++ evs', ?_, ?_⟩
    · rw [List.foldl_cons, hl2, hl1, List.append_assoc]
    · rw [List.foldl_cons, List.foldl_append]
      exact SEq.trans (SEq.foldl (fun _ _ ev h => applyEvent_congr h ev) evs' hs1) hs2

/-- **the changelog is faithful over every history of the five management calls, auto-save on or off, whatever the adapter
answers** (accepts, vetoes, fails) -/
theorem replica_history_any (ops : List NOp) (e : Enforcer) (h : ReadyAny e) :
    ∃ evs, (ops.foldl NOp.run e).log = e.log ++ evs ∧
      SEq (evs.foldl applyEvent e.store) (ops.foldl NOp.run e).store :=
  history_follows NOp.run ReadyAny step_follows_any ops e h

/-- **the changelog is faithful over every history** of the five management calls (accepted, without effect, on
existing or unknown policy types): the watcher's log only grows, and a replica that applies exactly the events delivered
holds, under every policy type, the rules the primary holds -/
theorem replica_history (ops : List NOp) (e : Enforcer) (h : Ready e) :
    ∃ evs, (ops.foldl NOp.run e).log = e.log ++ evs ∧
      SEq (evs.foldl applyEvent e.store) (ops.foldl NOp.run e).store :=
  replica_history_any ops e ⟨h.live, h.wf⟩

/-- auto-save on: a call stops at the adapter (error or veto: only the adapter's state moves) or is the auto-save-off call
on the enforcer holding the adapter's new state, the switch put back afterwards (`mgmt_on` over `NOp`; `mgmt_follows` above
splits with `mgmt_cases` itself) -/
theorem run_on (e : Enforcer) (hs : e.autoSave = true) (op : NOp) :
    (∃ a, op.run e = ({ e with adapter := a } : Enforcer)) ∨
    (∃ a, op.run e = (op.run (({ e with adapter := a } : Enforcer).withSave false)).withSave true) := by
  simp only [NOp.run_eq]; exact mgmt_on e hs _

/-! ### With `clear_policy` and `save_policy` -/

inductive WOp where
  | mgmt (op : NOp)
  | clear
  | save

def WOp.run (e : Enforcer) : WOp → Enforcer
  | .mgmt op => op.run e
  | .clear => e.clearPolicy.1
  | .save => e.savePolicy.1

/-- `arity`: the two places linking needs; true of every enforcer the constructor returns with auto-build on -/
structure Ready2 (e : Enforcer) : Prop where
  ready : Ready e
  arity : ∀ a ∈ e.store.gArities, 2 ≤ a

structure ReadyAll (e : Enforcer) : Prop where
  ready : ReadyAny e
  arity : ∀ a ∈ e.store.gArities, 2 ≤ a

/-- the rebuild over an empty policy cannot fail (auto-build on: given role definitions of at least two places), so the
`ClearPolicy` is delivered -/
theorem clearGo_step (x : Enforcer) (hl : Live x) (ha : x.autoBuild = true → ∀ a ∈ x.store.gArities, 2 ≤ a) :
    x.clearGo.1.store = x.store.clear ∧ x.clearGo.1.log = x.log ++ [Event.clearPolicy] ∧
    x.clearGo.1.autoSave = x.autoSave ∧ Live x.clearGo.1 := by
  have hnone : (x.relink x.rm x.store.clear.g).2 = none := by
    by_cases hb : x.autoBuild = true
    · rw [relink_on hb]; exact buildRoleLinks_cleared x.rm x.store (ha hb)
    · rw [relink_off (Bool.eq_false_iff.mpr hb)]
  rw [clearGo_eq, hnone]
  exact ⟨rfl, congrArg _ (hl.notes _), rfl, hl.of_eq rfl rfl rfl⟩

/-- `clear_policy`, auto-save off, auto-build on or off -/
theorem clear_step (e : Enforcer) (h : Ready2 e) :
    e.clearPolicy.1.store = e.store.clear ∧ e.clearPolicy.1.log = e.log ++ [Event.clearPolicy] ∧
    e.clearPolicy.1.autoSave = false ∧ Live e.clearPolicy.1 := by
  obtain ⟨c1, c2, c3, c4⟩ := clearGo_step e h.ready.live fun _ => h.arity
  rw [clearPolicy_off e h.ready.save]
  exact ⟨c1, c2, c3.trans h.ready.save, c4⟩

/-- auto-build off: no premise on the role definitions -/
theorem clear_notifies (e : Enforcer) (hl : Live e) (hs : e.autoSave = false) (hb : e.autoBuild = false) :
    e.clearPolicy.1.log = e.log ++ [Event.clearPolicy] ∧ e.clearPolicy.1.store = e.store.clear := by
  obtain ⟨c1, c2, _⟩ := clearGo_step e hl fun h => absurd (hb.symm.trans h) Bool.false_ne_true
  rw [clearPolicy_off e hs]
  exact ⟨c2, c1⟩

/-- `save_policy`: at most one notification, a snapshot of exactly the rules stored -/
theorem save_step_any (e : Enforcer) (hl : Live e) :
    e.savePolicy.1.store = e.store ∧
    (e.savePolicy.1.log = e.log ∨
      e.savePolicy.1.log = e.log ++ [Event.savePolicy (e.store.allOf "p" ++ e.store.allOf "g")]) ∧
    e.savePolicy.1.autoSave = e.autoSave ∧ Live e.savePolicy.1 := by
  unfold Enforcer.savePolicy
  split
  · exact ⟨rfl, Or.inl rfl, rfl, hl⟩
  · cases e.adapter.save e.store with
    | mk a ok =>
      cases ok with
      | none => exact ⟨rfl, Or.inl rfl, rfl, hl.adapter a⟩
      | some u =>
        dsimp only
        rw [emit_eq]
        exact ⟨rfl, Or.inr (congrArg _ (hl.notes _)), rfl, hl.of_eq rfl rfl rfl⟩

theorem save_step (e : Enforcer) (h : Ready e) :
    e.savePolicy.1.store = e.store ∧
    (e.savePolicy.1.log = e.log ∨
      e.savePolicy.1.log = e.log ++ [Event.savePolicy (e.store.allOf "p" ++ e.store.allOf "g")]) ∧
    e.savePolicy.1.autoSave = false ∧ Live e.savePolicy.1 :=
  let ⟨h1, h2, h3, h4⟩ := save_step_any e h.live
  ⟨h1, h2, h3.trans h.save, h4⟩

theorem wstep_follows_all (e : Enforcer) (h : ReadyAll e) (op : WOp) :
    (∃ evs, (op.run e).log = e.log ++ evs ∧ SEq (evs.foldl applyEvent e.store) (op.run e).store) ∧
    ReadyAll (op.run e) := by
  cases op with
  | mgmt op =>
    obtain ⟨h1, h2⟩ := step_follows_any e h.ready op
    refine ⟨h1, h2, ?_⟩
    show ∀ a ∈ (op.run e).store.gArities, 2 ≤ a
    rw [NOp.run_eq]
    rcases mgmt_store e op.desc with hs | hs <;> rw [hs]
    · exact h.arity
    · rw [op.desc_std.gArities]; exact h.arity
  | clear =>
    dsimp only [WOp.run]
    rcases clearPolicy_cases e with ⟨_, h1⟩ | ⟨a, _, _, h1⟩
    · rw [h1]
      exact ⟨⟨[], (List.append_nil _).symm, SEq.refl _⟩, ⟨h.ready.live.adapter _, h.ready.wf⟩, h.arity⟩
    · obtain ⟨c1, c2, _, c4⟩ := clearGo_step ({ e with adapter := a } : Enforcer) (h.ready.live.adapter a) fun _ => h.arity
      rw [h1]
      refine ⟨⟨[Event.clearPolicy], c2, ?_⟩, ⟨c4, ?_⟩, ?_⟩
      · rw [c1]; exact SEq.refl _
      · rw [c1]; intro sec pt; rw [Store.getPolicy_clear]; exact List.nodup_nil
      · rw [c1, Store.clear_gArities]; exact h.arity
  | save =>
    dsimp only [WOp.run]
    obtain ⟨h1, h2, _, h4⟩ := save_step_any e h.ready.live
    rw [h1]
    refine ⟨?_, ⟨h4, h1 ▸ h.ready.wf⟩, h1 ▸ h.arity⟩
    rcases h2 with h2 | h2
    · exact ⟨[], by rw [List.append_nil]; exact h2, SEq.refl _⟩
    · exact ⟨[_], h2, SEq.refl _⟩

/-- **the changelog is faithful over every history of management calls, `clear_policy` and `save_policy`, auto-save and
auto-build on or off, whatever the adapter answers to any of them** (a `ClearPolicy` empties the replica, a `SavePolicy`
snapshot leaves it as it is) -/
theorem replica_history_all (ops : List WOp) (e : Enforcer) (h : ReadyAll e) :
    ∃ evs, (ops.foldl WOp.run e).log = e.log ++ evs ∧
      SEq (evs.foldl applyEvent e.store) (ops.foldl WOp.run e).store :=
  history_follows WOp.run ReadyAll wstep_follows_all ops e h

/-- **the changelog is faithful over every history of management calls, `clear_policy` and `save_policy`**, auto-save off,
auto-build on or off, whatever the adapter answers to a save -/
theorem replica_history_full (ops : List WOp) (e : Enforcer) (h : Ready2 e) :
    ∃ evs, (ops.foldl WOp.run e).log = e.log ++ evs ∧
      SEq (evs.foldl applyEvent e.store) (ops.foldl WOp.run e).store :=
  replica_history_all ops e ⟨⟨h.ready.live, h.ready.wf⟩, h.arity⟩

/-- an accepted `save_policy` delivers exactly one snapshot of the stored policy -/
theorem save_notifies (e : Enforcer) (hl : Live e) (hf : e.adapter.filtered = false) (a : AdapterSt)
    (hok : e.adapter.save e.store = (a, some ())) :
    e.savePolicy.1.log = e.log ++ [Event.savePolicy (e.store.allOf "p" ++ e.store.allOf "g")] ∧
    e.savePolicy.1.store = e.store := by
  unfold Enforcer.savePolicy
  rw [if_neg (by rw [hf]; exact Bool.false_ne_true), hok]
  dsimp only
  rw [emit_eq]
  exact ⟨congrArg _ (hl.notes _), rfl⟩

/-- also when nothing is stored -/
theorem save_empty_notifies (e : Enforcer) (hl : Live e) (hf : e.adapter.filtered = false) (a : AdapterSt)
    (hok : e.adapter.save e.store = (a, some ())) (hempty : e.store.allOf "p" ++ e.store.allOf "g" = []) :
    e.savePolicy.1.log = e.log ++ [Event.savePolicy []] := by
  rw [(save_notifies e hl hf a hok).1, hempty]

/-! ### Non-vacuity -/

def demo : Enforcer :=
  { defs := ⟨[], [], []⟩, store := ⟨[{ key := "p", tokens := [], arity := 0, policy := [] }], []⟩,
    adapter := AdapterSt.mk0 .null, rm := RoleMgr.new 10, enabled := true, autoSave := false, autoBuild := true,
    autoNotify := true, callbacks := 1, hasWatcher := true, gfuncs := [], userFns := [], log := [] }
example : Live demo := ⟨rfl, rfl, rfl⟩
example : (demo.addPolicy "p" "p" ["a"]).1.log = [Event.addPolicy "p" "p" ["a"]] := by decide +kernel
example : ((demo.addPolicy "p" "p" ["a"]).1.addPolicy "p" "p" ["a"]).1.log = [Event.addPolicy "p" "p" ["a"]] := by decide +kernel

/-- the premise of `replica_history` holds of a concrete enforcer -/
theorem demo_ready : Ready demo := by
  refine ⟨rfl, ⟨rfl, rfl, rfl⟩, fun sec pt => ?_⟩
  -- every definition of the demo store is empty: it is its own cleared copy
  have : demo.store = demo.store.clear := rfl
  rw [this, Store.getPolicy_clear]; exact List.nodup_nil
example : ∃ evs, ([NOp.add "p" "p" ["a"], .removeMany "p" "p" [["a"]]].foldl NOp.run demo).log = demo.log ++ evs ∧
    SEq (evs.foldl applyEvent demo.store) ([NOp.add "p" "p" ["a"], .removeMany "p" "p" [["a"]]].foldl NOp.run demo).store :=
  replica_history _ demo demo_ready

/-- the premise of `replica_history_any`, auto-save on over a memory adapter -/
example : ReadyAny ({ demo with autoSave := true, adapter := AdapterSt.mk0 .memory } : Enforcer) :=
  ⟨⟨rfl, rfl, rfl⟩, demo_ready.wf⟩
example : ([NOp.add "p" "p" ["a"], .add "p" "p" ["a"], .remove "p" "p" ["a"]].foldl NOp.run
    ({ demo with autoSave := true, adapter := AdapterSt.mk0 .memory } : Enforcer)).log =
    [Event.addPolicy "p" "p" ["a"], Event.removePolicy "p" "p" ["a"]] := by decide +kernel

theorem demo_ready2 : Ready2 demo := ⟨demo_ready, by intro a ha; simp [Store.gArities, demo] at ha⟩
example : ∃ evs, ([WOp.mgmt (.add "p" "p" ["a"]), .save, .clear, .save].foldl WOp.run demo).log = demo.log ++ evs ∧
    SEq (evs.foldl applyEvent demo.store) ([WOp.mgmt (.add "p" "p" ["a"]), .save, .clear, .save].foldl WOp.run demo).store :=
  replica_history_full _ demo demo_ready2
example : ([WOp.mgmt (.add "p" "p" ["a"]), .clear, .save].foldl WOp.run demo).log =
    [Event.addPolicy "p" "p" ["a"], Event.clearPolicy, Event.savePolicy []] := by decide +kernel

example : ReadyAll ({ demo with autoSave := true, adapter := AdapterSt.mk0 .memory } : Enforcer) :=
  ⟨⟨⟨rfl, rfl, rfl⟩, demo_ready.wf⟩, by intro a ha; simp [Store.gArities, demo] at ha⟩

end Casbin.C14
