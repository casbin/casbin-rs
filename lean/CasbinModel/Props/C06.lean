import CasbinModel.Props.C01
import CasbinModel.KeyMatch
/-! # C06 — Enforcement is total and fails closed   (*partial*: rhai/regex engines themselves)

Every partial operation of the Rust code is an explicit `Out.panic` or `none` in the model; totality of the Lean
definitions (structural recursion / fuel; C03 for the BFS) is the "never hangs" half for the modelled logic.  The
byte-offset slicing of `key_match` / `key_get` is modelled on UTF-8 bytes and is total. -/
namespace Casbin.C06
open Casbin

theorem ite_ne_panic {p : Prop} [Decidable p] {a b : Out ErrKind Bool} (ha : a ≠ .panic) (hb : b ≠ .panic) :
    (if p then a else b) ≠ .panic := by split <;> assumption

theorem refScan_ne_panic (ex : EffExpr) (acc : List Eff) (outs : List (Except ErrKind Eff)) :
    refScan ex acc outs ≠ .panic := by
  induction outs generalizing acc with
  | nil => nofun
  | cons o rest ih =>
    cases o with
    | error k => nofun
    | ok e => exact ite_ne_panic nofun (ih _)

/-- **`enforce` never panics** for a supported effect expression, whatever the request, policy and matcher. -/
theorem enforce_never_panics (c : EvalCfg) (reqLen : Nat) (m : MatchFn) (ex : EffExpr)
    (he : c.effExpr = some ex) : enforceCore c reqLen m ≠ .panic := by
  rw [enforceCore_eq, he]
  -- the five `if`s of `enforceCore_eq` once `effExpr` is known
  refine ite_ne_panic nofun (ite_ne_panic nofun (ite_ne_panic nofun (ite_ne_panic nofun
    (ite_ne_panic ?_ (refScan_ne_panic _ _ _)))))
  cases m (c.ptokens.map fun _ => "") <;> nofun

theorem wrong_arity_never_grants (c : EvalCfg) (n : Nat) (m : MatchFn) (h1 : c.enabled = true)
    (h2 : c.sectionsOk = true) (h : c.rtokens ≠ n) : enforceCore c n m = .err .request :=
  C01.wrong_arity_is_error c n m h1 h2 h

/-- **Fails closed**: a failing rule that evaluation reaches (`hund`: no prefix of the effects before it decides) gives
that error.  By `decided_mono`, `hund` says no more than `decided ex effs = false`, which the proof uses. -/
theorem reached_failure_is_error (c : EvalCfg) (reqLen : Nat) (m : MatchFn) (ex : EffExpr)
    (hr : C01.Ready c reqLen ex) (good : List Rule) (bad : Rule) (rest : List Rule) (k : ErrKind)
    (effs : List Eff) (hpol : c.policy = good ++ bad :: rest)
    (hgood : good.map (ruleOutcome c.ptokens.length (c.ptokens.idxOf? c.eftToken) m) = effs.map Except.ok)
    (hbad : ruleOutcome c.ptokens.length (c.ptokens.idxOf? c.eftToken) m bad = .error k)
    (hund : ∀ pre, pre <+: effs → pre ≠ [] → decided ex pre = false) :
    enforceCore c reqLen m = .err k := by
  have hd : decided ex effs = false := by
    cases effs with
    | nil => exact decided_nil ex
    | cons e es => exact hund _ (List.prefix_refl _) (List.cons_ne_nil e es)
  rw [C01.enforce_eq_reference c reqLen m ex hr (by rw [hpol]; simp), hpol, List.map_append, List.map_cons, hgood, hbad,
    refScan_ok_append ex effs _ [] (decided_nil ex), List.nil_append, hd]
  rfl

/-! The two ways a rule fails. -/

theorem malformed_rule_outcome (ntok : Nat) (eftIdx : Option Nat) (m : MatchFn) (rule : Rule)
    (h : rule.length ≠ ntok) : ruleOutcome ntok eftIdx m rule = .error .policy :=
  ruleOutcome_of_length_ne eftIdx m h

theorem failing_matcher_outcome (ntok : Nat) (eftIdx : Option Nat) (m : MatchFn) (rule : Rule)
    (h : rule.length = ntok) (hm : m rule = none) : ruleOutcome ntok eftIdx m rule = .error .eval :=
  ruleOutcome_of_none eftIdx h hm

theorem error_is_not_grant (k : ErrKind) : (Out.err k : Out ErrKind Bool) ≠ .ok true := nofun

/-- as in rhai, a non-boolean matcher result is an error -/
theorem nonbool_matcher_is_error (env : Env) (e : Expr) (v : Val) (h : e.eval env 8 = some v)
    (hv : ∀ b, v ≠ .atom (.bool b)) : e.evalBool env = none := by
  unfold Expr.evalBool; rw [h]
  cases v with
  | map fs => rfl
  | atom a => cases a <;> first | rfl | (exfalso; exact hv _ rfl)

/-- Holds of any `Bool`: `keyMatch` and `keyGet` compare lists of UTF-8 bytes and are total by construction (as
`key_match` / `key_get` after the byte-comparison fix: no slicing at a foreign byte offset); the content is in the
non-ASCII examples below. -/
theorem keyMatch_total (k p : Str) : keyMatch k p = true ∨ keyMatch k p = false :=
  Bool.eq_false_or_eq_true _

/-! ### Non-vacuity -/
example : keyMatch "éx".toList "a*".toList = false := by decide +kernel
example : keyGet "éx".toList "a*".toList = [] := by decide +kernel
example : keyMatch "/é/x".toList "/é/*".toList = true := by decide +kernel
example : enforceCore C01.demoCfg 3 (C01.demoMatch "alice" "d1") = .err .request := by decide +kernel
/-- premise of `reached_failure_is_error`: the first stored rule is malformed -/
example : enforceCore { C01.demoCfg with policy := [["alice"], ["alice", "d1", "allow"]] } 2
    (C01.demoMatch "alice" "d1") = .err .policy := by decide +kernel

end Casbin.C06
