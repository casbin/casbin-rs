import CasbinModel.Cached
import CasbinModel.Props.C10
import CasbinModel.Lemmas.StoreStep
/-!
# C11 — Caching never changes a decision

`CacheSound c`: every cached entry is what the inner enforcer would answer now.  Established by construction; kept by
every request (plain or context-qualified: the key carries the context), by every forwarded change that clears the
cache, and by management calls (cleared when the store changed; otherwise the decision core is untouched).  Under it
a cached enforcer answers every request like its inner enforcer.

The general statements are `mgmt_sound_core` (one management call) and `cached_history_core` (any history, any auto-save
state, every oracle invariant under `C10.sameCore`); the other theorems named for the property are cases of them, but for
`mgmt_sound_all` (auto-save off, `hfail` in place of `MOp.NonEmpty`), proved beside them from `mgmtGo_kept`.
-/
namespace Casbin.C11
open Casbin

/-- the decision procedure a cache key stands for -/
abbrev Oracle := Enforcer → CacheKey → Out ErrKind Bool

def CacheSound (oracle : Oracle) (c : Cached) : Prop :=
  ∀ k v, (k, v) ∈ c.cache → oracle c.inner k = .ok v

theorem lookup_mem {c : Cached} {k : CacheKey} {v : Bool} (h : c.lookup k = some v) : (k, v) ∈ c.cache := by
  obtain ⟨l₁, l₂, hl, _⟩ := List.lookup_eq_some_iff.1 h
  rw [hl]
  exact List.mem_append_right _ List.mem_cons_self

/-- **A cached enforcer answers like the uncached one**, and stays sound. -/
theorem enforce_eq_plain (oracle : Oracle) (c : Cached) (k : CacheKey) (hs : CacheSound oracle c) :
    (c.enforceWith k (fun e => oracle e k)).2 = oracle c.inner k ∧
    CacheSound oracle (c.enforceWith k (fun e => oracle e k)).1 ∧
    (c.enforceWith k (fun e => oracle e k)).1.inner = c.inner := by
  unfold Cached.enforceWith
  split
  · rename_i v hl
    exact ⟨(hs k v (lookup_mem hl)).symm, hs, rfl⟩
  · split
    · rename_i v ho
      refine ⟨ho.symm, ?_, rfl⟩
      intro k' v' hm
      simp only [List.mem_cons, Prod.mk.injEq] at hm
      rcases hm with ⟨h1, h2⟩ | hm
      · subst h1 h2; exact ho
      · exact hs k' v' hm
    · exact ⟨rfl, hs, rfl⟩

/-- an empty cache is sound for any inner state: so after every forwarded change that clears the cache (those listed at
`COp.reconf`, and enable_enforce, set_effector, add_function), whatever it does to the inner enforcer -/
theorem clearing_sound (oracle : Oracle) (c : Cached) (f : Enforcer → Enforcer × Res) :
    CacheSound oracle (c.clearing f).1 ∧ (c.clearing f).1.inner = (f c.inner).1 ∧ (c.clearing f).2 = (f c.inner).2 := by
  refine ⟨?_, rfl, rfl⟩
  intro k v hm; simp [Cached.clearing] at hm

theorem new_sound (oracle : Oracle) (e : Enforcer) : CacheSound oracle { inner := e, cache := [] } := by
  intro k v hm; cases hm

/-- a management call keeps soundness if, whenever `changed` says no, every key is answered as before (`hstable`); otherwise
the cache is emptied -/
theorem mgmt_sound (oracle : Oracle) (c : Cached) (f : Enforcer → Enforcer × Res)
    (changed : Enforcer → Enforcer × Res → Bool) (hs : CacheSound oracle c)
    (hstable : changed c.inner (f c.inner) = false → ∀ k, oracle (f c.inner).1 k = oracle c.inner k) :
    CacheSound oracle (c.mgmt f changed).1 := by
  unfold Cached.mgmt
  simp only
  cases hc : changed c.inner (f c.inner) with
  | true => intro k v hm; simp at hm
  | false =>
    simp only [Bool.false_eq_true, if_false]
    intro k v hm
    rw [hstable hc k]; exact hs k v hm

/-! ### `mgmtGo`: cache kept, core untouched -/

/-- `Err` or panic -/
def resFailed : Res → Bool
  | .err _ => true
  | .panic => true
  | _ => false

theorem ret_changed (m : Mgmt) (b : Bool) (rs : List Rule) : resChanged (m.ret b rs) = b := by
  unfold Mgmt.ret; cases m.listed <;> rfl

theorem ret_failed (m : Mgmt) (b : Bool) (rs : List Rule) : resFailed (m.ret b rs) = false := by
  unfold Mgmt.ret; cases m.listed <;> rfl

theorem mgmtGo_failed (e : Enforcer) (m : Mgmt) (hf : resFailed (e.mgmtGo m).2 = true) : (m.step e.store).2.1 = true := by
  rcases mgmtGo_res e m with h | ⟨h, _⟩
  · rw [h, ret_failed] at hf; cases hf
  · exact h

theorem mgmtGo_nochange (e : Enforcer) (m : Mgmt) (hflag : (m.step e.store).2.1 = false)
    (hst : (m.step e.store).1 = e.store) : C10.sameCore e (e.mgmtGo m).1 := by
  rw [mgmtGo_quiet e m hflag, hst]
  exact ⟨rfl, rfl, rfl, rfl, rfl, rfl, rfl, rfl⟩

/-- a `mgmtGo` after which the cache is kept left the decision core alone: it cannot have failed, if failing means the store
changed (`hfail`) -/
theorem mgmtGo_kept (e : Enforcer) (m : Mgmt)
    (hfail : resFailed (e.mgmtGo m).2 = true → (m.step e.store).1 ≠ e.store)
    (hc : storeOrResChanged e (e.mgmtGo m) = false) : C10.sameCore e (e.mgmtGo m).1 := by
  simp only [storeOrResChanged, Bool.or_eq_false_iff, decide_eq_false_iff_not, ne_eq] at hc
  have hst : (m.step e.store).1 = e.store := (mgmtGo_store e m).symm.trans (Decidable.of_not_not hc.2)
  rcases mgmtGo_res e m with h | ⟨_, k, h⟩
  · rw [h, ret_changed] at hc; exact mgmtGo_nochange e m hc.1 hst
  · exact absurd hst (hfail (by rw [h]; rfl))

theorem stopped_not_changed {r : Res} (h : stoppedRes r) : resChanged r = false := by
  rcases h with h | h | h <;> subst h <;> rfl

/-! ### One management call -/

inductive MOp where
  | add (sec pt : String) (rule : Rule)
  | remove (sec pt : String) (rule : Rule)
  | addMany (sec pt : String) (rules : List Rule)
  | removeMany (sec pt : String) (rules : List Rule)
  | removeFiltered (sec pt : String) (idx : Nat) (vals : List String)

def MOp.run (e : Enforcer) : MOp → Enforcer × Res
  | .add sec pt rule => e.addPolicy sec pt rule
  | .remove sec pt rule => e.removePolicy sec pt rule
  | .addMany sec pt rules => e.addPolicies sec pt rules
  | .removeMany sec pt rules => e.removePolicies sec pt rules
  | .removeFiltered sec pt idx vals => e.removeFiltered sec pt idx vals

/-- a batch call names at least one rule -/
def MOp.NonEmpty : MOp → Prop
  | .addMany _ _ rules => rules ≠ []
  | .removeMany _ _ rules => rules ≠ []
  | _ => True

def MOp.storeOp (s : Store) : MOp → Store × Bool
  | .add sec pt rule => s.addPolicy sec pt rule
  | .remove sec pt rule => s.removePolicy sec pt rule
  | .addMany sec pt rules => s.addPolicies sec pt rules
  | .removeMany sec pt rules => s.removePolicies sec pt rules
  | .removeFiltered sec pt idx vals => ((s.removeFiltered sec pt idx vals).1, (s.removeFiltered sec pt idx vals).2.1)

def MOp.desc : MOp → Mgmt
  | .add sec pt rule => .add sec pt rule
  | .remove sec pt rule => .remove sec pt rule
  | .addMany sec pt rules => .addMany sec pt rules
  | .removeMany sec pt rules => .removeMany sec pt rules
  | .removeFiltered sec pt idx vals => .removeFiltered sec pt idx vals

theorem MOp.desc_std (op : MOp) : op.desc.Std := by cases op <;> constructor

theorem MOp.run_eq (e : Enforcer) (op : MOp) : op.run e = e.mgmt op.desc := by
  cases op with
  | add sec pt rule => exact e.addPolicy_eq sec pt rule
  | remove sec pt rule => exact e.removePolicy_eq sec pt rule
  | addMany sec pt rules => exact e.addPolicies_eq sec pt rules
  | removeMany sec pt rules => exact e.removePolicies_eq sec pt rules
  | removeFiltered sec pt idx vals => exact e.removeFiltered_eq sec pt idx vals

theorem MOp.storeOp_eq (s : Store) (op : MOp) : op.storeOp s = ((op.desc.step s).1, (op.desc.step s).2.1) := by
  cases op <;> rfl

theorem MOp.desc_changed (op : MOp) (hne : op.NonEmpty) (s : Store) (h : (op.desc.step s).2.1 = true) :
    (op.desc.step s).1 ≠ s := by
  refine op.desc_std.changed s h ?_
  cases op with
  | add _ _ _ | remove _ _ _ => exact List.cons_ne_nil _ _
  | addMany _ _ _ | removeMany _ _ _ => exact hne
  | removeFiltered sec pt idx vals =>
    -- what a filtered removal reports removed is what it found to remove
    obtain ⟨hv, r, hr, hm⟩ := (s.removeFiltered_flag sec pt idx vals).1 h
    show (s.removeFiltered sec pt idx vals).2.2 ≠ []
    rw [Store.removeFiltered_snd, if_neg hv]
    exact List.ne_nil_of_mem (List.mem_filter.2 ⟨hr, hm⟩)

/-- a reported change is a change of the store (a batch must name a rule) -/
theorem storeOp_changed (s : Store) (op : MOp) (hne : op.NonEmpty) (h : (op.storeOp s).2 = true) :
    (op.storeOp s).1 ≠ s := by
  rw [MOp.storeOp_eq] at h ⊢
  exact op.desc_changed hne s h

/-- a call that fails past the adapter failed in the link update, after the store changed -/
theorem failed_changes_store (e : Enforcer) (hs : e.autoSave = false) (op : MOp) (hne : op.NonEmpty)
    (hf : resFailed (op.run e).2 = true) : (op.run e).1.store ≠ e.store := by
  rw [MOp.run_eq, mgmt_off e hs] at hf ⊢
  rw [mgmtGo_store]
  exact op.desc_changed hne e.store (mgmtGo_failed e _ hf)

theorem run_nochange_sameCore (e : Enforcer) (hsave : e.autoSave = false) (op : MOp)
    (hfail : resFailed (op.run e).2 = true → (op.run e).1.store ≠ e.store)
    (hc : storeOrResChanged e (op.run e) = false) : C10.sameCore e (op.run e).1 := by
  rw [MOp.run_eq, mgmt_off e hsave] at hfail hc ⊢
  exact mgmtGo_kept e _ (fun hf => mgmtGo_store e _ ▸ hfail hf) hc

/-- **every management call keeps the cache sound** (auto-save off): the cache is emptied when the call reports a change
or changes the store; otherwise the decision core is identical.  `hfail`: a failing call changed the store (for non-empty
batches: `failed_changes_store`) -/
theorem mgmt_sound_all (oracle : Oracle) (horacle : ∀ e e', C10.sameCore e e' → ∀ k, oracle e' k = oracle e k)
    (c : Cached) (hs : CacheSound oracle c) (op : MOp) (hsave : c.inner.autoSave = false)
    (hfail : resFailed (op.run c.inner).2 = true → (op.run c.inner).1.store ≠ c.inner.store) :
    CacheSound oracle (c.mgmt (fun e => op.run e) storeOrResChanged).1 :=
  mgmt_sound oracle c _ _ hs fun hc k => horacle _ _ (run_nochange_sameCore c.inner hsave op hfail hc) k

/-- **every management call keeps the cache sound, auto-save on or off, whatever the adapter answers**, for every oracle that
reads only the decision core (the adapter is not part of it): a call stopped at the adapter leaves the core alone;
otherwise `mgmtGo` empties the cache or leaves the core alone (it cannot have failed: a failing one changed the store) -/
theorem mgmt_sound_core (oracle : Oracle) (horacle : ∀ e e', C10.sameCore e e' → ∀ k, oracle e' k = oracle e k)
    (c : Cached) (hs : CacheSound oracle c) (op : MOp) (hne : op.NonEmpty) :
    CacheSound oracle (c.mgmt (fun e => op.run e) storeOrResChanged).1 := by
  apply mgmt_sound oracle c _ _ hs
  intro hc k
  have hadapter : ∀ a, oracle ({ c.inner with adapter := a } : Enforcer) k = oracle c.inner k :=
    fun a => horacle _ _ (C10.sameCore_adapter c.inner a) k
  simp only [MOp.run_eq] at hc ⊢
  rcases mgmt_cases c.inner op.desc with ⟨res, _, _, h1, _⟩ | ⟨a, _, _, h1⟩
  · rw [h1]; exact hadapter _
  · rw [h1] at hc ⊢
    exact (horacle _ _ (mgmtGo_kept ({ c.inner with adapter := a } : Enforcer) _
      (fun hf => op.desc_changed hne _ (mgmtGo_failed _ _ hf)) hc) k).trans (hadapter a)

/-! ### Histories -/

/-- a client's calls on the cached enforcer -/
inductive COp where
  | enforce (k : CacheKey)
  | mgmt (op : MOp)
  /-- a forwarded call that clears the cache first: `load_policy`, `load_filtered_policy`, `clear_policy`, `set_model`,
  `set_adapter`, `set_role_manager`, `build_role_links`, … (cached_enforcer.rs) -/
  | reconf (f : Enforcer → Enforcer × Res)

/-- the side conditions of `cached_history`: a batch names a rule; a reconfiguration leaves the auto-save switch alone
(`cached_history_core` needs the first only) -/
def COp.NonEmpty : COp → Prop
  | .enforce _ => True
  | .mgmt op => op.NonEmpty
  | .reconf f => ∀ e, (f e).1.autoSave = e.autoSave

def cstep (oracle : Oracle) (c : Cached) : COp → Cached
  | .enforce k => (c.enforceWith k (fun e => oracle e k)).1
  | .mgmt op => (c.mgmt (fun e => op.run e) storeOrResChanged).1
  | .reconf f => (c.clearing f).1

/-- any history, any auto-save state, every oracle invariant under `C10.sameCore` (one that reads only what a decision
reads is such: `sameCore_sameDecision`) -/
theorem cached_history_core (oracle : Oracle) (horacle : ∀ e e', C10.sameCore e e' → ∀ k, oracle e' k = oracle e k)
    (ops : List COp) (c : Cached) (hs : CacheSound oracle c)
    (hne : ∀ op ∈ ops, ∀ m, op = COp.mgmt m → m.NonEmpty) (k : CacheKey) :
    ((ops.foldl (cstep oracle) c).enforceWith k (fun e => oracle e k)).2 = oracle (ops.foldl (cstep oracle) c).inner k := by
  induction ops generalizing c with
  | nil => exact (enforce_eq_plain oracle c k hs).1
  | cons op ops ih =>
    refine ih _ ?_ (fun o ho => hne o (List.mem_cons_of_mem _ ho))
    cases op with
    | enforce k' => exact (enforce_eq_plain oracle c k' hs).2.1
    | mgmt m => exact mgmt_sound_core oracle horacle c hs m (hne _ List.mem_cons_self m rfl)
    | reconf f => exact (clearing_sound oracle c f).1

/-- **after every history of requests, management calls and reconfigurations** (management calls single, batch, filtered;
accepted, without effect or failing in the link update) a request, cached or not, is answered as the inner enforcer
answers it at that moment.  `cached_history_core` with two hypotheses it does not need: `hsave`, and the `reconf` part of
`COp.NonEmpty` (which the calls listed at `COp.reconf` meet: `load_autoSave` … `clear_autoSave`). -/
theorem cached_history (oracle : Oracle) (horacle : ∀ e e', C10.sameCore e e' → ∀ k, oracle e' k = oracle e k)
    (ops : List COp) (c : Cached) (hs : CacheSound oracle c) (hsave : c.inner.autoSave = false)
    (hne : ∀ op ∈ ops, op.NonEmpty) (k : CacheKey) :
    let c' := ops.foldl (cstep oracle) c
    (c'.enforceWith k (fun e => oracle e k)).2 = oracle c'.inner k :=
  cached_history_core oracle horacle ops c hs (fun op hop m hm => by have := hne op hop; rw [hm] at this; exact this) k

/-! ### Oracles that read only what a decision reads -/

/-- what a decision reads of the enforcer -/
def sameDecision (e e' : Enforcer) : Prop :=
  e'.store = e.store ∧ e'.rm = e.rm ∧ e'.defs = e.defs ∧ e'.gfuncs = e.gfuncs ∧ e'.enabled = e.enabled

/-- the plain-request oracle reads nothing else -/
theorem enforce_oracle_decision (call : String → List String → Option Atom) (tbl : String → Option Expr) :
    ∀ e e', sameDecision e e' → ∀ (req : List Val), e'.enforce call tbl req = e.enforce call tbl req :=
  fun _ _ h req => Enforcer.enforce_congr h.1 h.2.1 h.2.2.1 h.2.2.2.1 h.2.2.2.2 call tbl req

theorem sameCore_sameDecision {e e' : Enforcer} (h : C10.sameCore e e') : sameDecision e e' :=
  ⟨h.1, h.2.1, h.2.2.1, h.2.2.2.1, h.2.2.2.2.1⟩

/-- **every management call keeps the cache sound, auto-save on or off, whatever the adapter answers**: `mgmt_sound_core`
for an oracle that reads only what a decision reads -/
theorem mgmt_sound_any (oracle : Oracle) (horacle : ∀ e e', sameDecision e e' → ∀ k, oracle e' k = oracle e k)
    (c : Cached) (hs : CacheSound oracle c) (op : MOp) (hne : op.NonEmpty) :
    CacheSound oracle (c.mgmt (fun e => op.run e) storeOrResChanged).1 :=
  mgmt_sound_core oracle (fun e e' h => horacle e e' (sameCore_sameDecision h)) c hs op hne

/-- **after every history of requests, management calls and reconfigurations, auto-save on or off, whatever the adapter
answers**, a request is answered as the inner enforcer answers it at that moment: `cached_history_core` for an oracle that
reads only what a decision reads (the plain-request oracle is one: `enforce_oracle_decision`) -/
theorem cached_history_any (oracle : Oracle) (horacle : ∀ e e', sameDecision e e' → ∀ k, oracle e' k = oracle e k)
    (ops : List COp) (c : Cached) (hs : CacheSound oracle c)
    (hne : ∀ op ∈ ops, ∀ m, op = COp.mgmt m → m.NonEmpty) (k : CacheKey) :
    let c' := ops.foldl (cstep oracle) c
    (c'.enforceWith k (fun e => oracle e k)).2 = oracle c'.inner k :=
  cached_history_core oracle (fun e e' h => horacle e e' (sameCore_sameDecision h)) ops c hs hne k

/-! ### `add_policy` alone -/

/-- what makes an addition without effect leave the store identical, not only equivalent (`addPolicy_unchanged`) -/
def KeysUnique (s : Store) : Prop :=
  ∀ sec (d1 d2 : PolDef), d1 ∈ s.sec sec → d2 ∈ s.sec sec → d1.key = d2.key → d1 = d2

theorem addPolicy_unchanged (s : Store) (hu : KeysUnique s) (sec pt : String) (rule : Rule)
    (h : (s.addPolicy sec pt rule).2 = false) : (s.addPolicy sec pt rule).1 = s := by
  unfold Store.addPolicy at h ⊢
  cases hf : s.find sec pt with
  | none => rfl
  | some d =>
    rw [hf, OrdSet.add_snd, decide_eq_false_iff_not, Classical.not_not] at h
    obtain ⟨hm, hk⟩ := Store.find_mem hf
    show s.update sec pt _ = s
    unfold Store.update
    rw [updDef_self, Store.setSec_self]
    intro d' hd' hk'
    have : d' = d := hu sec d' d hd' hm (hk'.trans hk.symm)
    subst this
    show ({ d' with policy := (OrdSet.add d'.policy rule).1 } : PolDef) = d'
    rw [OrdSet.add_fst, if_pos h]

/-- an `add_policy` reporting "no change" (auto-save off) leaves the decision core identical: `hstable` for every oracle
that reads only the core -/
theorem nochange_add_sameCore (e : Enforcer) (sec pt : String) (rule : Rule) (hs : e.autoSave = false)
    (hu : KeysUnique e.store) (h : (e.addPolicy sec pt rule).2 = .bool false) :
    C10.sameCore e (e.addPolicy sec pt rule).1 := by
  rw [Enforcer.addPolicy_eq, mgmt_off e hs] at h ⊢
  have hflag : (e.store.addPolicy sec pt rule).2 = false := by
    rcases mgmtGo_res e (.add sec pt rule) with h' | ⟨_, k, h'⟩
    · rw [h'] at h; exact Res.bool.inj h
    · rw [h'] at h; cases h
  exact mgmtGo_nochange e _ hflag (addPolicy_unchanged e.store hu sec pt rule hflag)

/-- `hstable` of `mgmt_sound` for the plain-request oracle when the adapter vetoes the call (C10) -/
theorem rejected_add_stable (call : String → List String → Option Atom) (tbl : String → Option Expr)
    (e : Enforcer) (sec pt : String) (rule : Rule) (has : e.autoSave = true) (hr : C10.Rejecting e.adapter)
    (req : List Val) :
    (e.addPolicy sec pt rule).1.enforce call tbl req = e.enforce call tbl req :=
  C10.enforce_depends_on_core e _ (C10.rejected_add e sec pt rule has hr).1 call tbl req

/-- a call that fails after the store changed (in its link update) still clears the cache -/
theorem mgmt_clears_when_store_changed (c : Cached) (f : Enforcer → Enforcer × Res)
    (h : (f c.inner).1.store ≠ c.inner.store) : (c.mgmt f storeOrResChanged).1.cache = [] := by
  simp [Cached.mgmt, storeOrResChanged, h]

/-- the plain-request oracle reads only the decision core (C10) -/
theorem enforce_oracle_core (call : String → List String → Option Atom) (tbl : String → Option Expr) :
    ∀ e e', C10.sameCore e e' → ∀ (req : List Val), e'.enforce call tbl req = e.enforce call tbl req :=
  fun e e' h req => C10.enforce_depends_on_core e e' h call tbl req

/-- **an `add_policy` that does not fail keeps the cache sound** for every oracle that reads only the decision core: the
case `add` of `mgmt_sound_core`, which needs none of the last three hypotheses -/
theorem mgmt_add_sound (oracle : Oracle) (horacle : ∀ e e', C10.sameCore e e' → ∀ k, oracle e' k = oracle e k)
    (c : Cached) (hs : CacheSound oracle c) (sec pt : String) (rule : Rule) (hsave : c.inner.autoSave = false)
    (hu : KeysUnique c.inner.store) (hres : ∃ b, (c.inner.addPolicy sec pt rule).2 = .bool b) :
    CacheSound oracle (c.mgmt (fun e => e.addPolicy sec pt rule) storeOrResChanged).1 :=
  mgmt_sound_core oracle horacle c hs (.add sec pt rule) trivial

/-! the reconfiguration calls meet the `reconf` clause of `COp.NonEmpty` (only the example below needs these) -/

theorem finishLoad_autoSave (e : Enforcer) (old : Store) (a : AdapterSt) (s : Store) (ok : Option Unit) :
    (e.finishLoad old a s ok).1.autoSave = e.autoSave := by
  obtain ⟨_, _, h⟩ := finishLoad_frame e old a s ok
  rw [h]

theorem load_autoSave (e : Enforcer) : e.loadPolicy.1.autoSave = e.autoSave := finishLoad_autoSave _ _ _ _ _
theorem loadFiltered_autoSave (e : Enforcer) (fp fg : List String) : (e.loadFilteredPolicy fp fg).1.autoSave = e.autoSave :=
  finishLoad_autoSave _ _ _ _ _
theorem setAdapter_autoSave (e : Enforcer) (a : AdapterSt) : (e.setAdapter a).1.autoSave = e.autoSave :=
  load_autoSave { e with adapter := a }
theorem setModel_autoSave (e : Enforcer) (defs : Defs) (store : Store) : (e.setModel defs store).1.autoSave = e.autoSave := by
  unfold Enforcer.setModel
  dsimp only
  split
  · rfl
  · exact load_autoSave _
theorem setRm_autoSave (e : Enforcer) (rm0 : RoleMgr String) : (e.setRoleManagerWith rm0).1.autoSave = e.autoSave := by
  rw [setRoleManagerWith_eq]
  split <;> rfl
theorem clear_autoSave (e : Enforcer) : e.clearPolicy.1.autoSave = e.autoSave := by
  rcases clearPolicy_cases e with ⟨_, h⟩ | ⟨a, _, _, h⟩
  · rw [h]
  · rw [h, clearGo_eq]

example : (COp.reconf Enforcer.loadPolicy).NonEmpty ∧ (COp.reconf Enforcer.clearPolicy).NonEmpty ∧
    (COp.reconf (fun e => e.setRoleManagerWith (RoleMgr.new 10))).NonEmpty ∧
    (COp.reconf (fun e => e.setModel ⟨[], [], []⟩ ⟨[], []⟩)).NonEmpty ∧
    (COp.reconf (fun e => e.setAdapter (AdapterSt.mk0 .memory))).NonEmpty ∧
    (COp.reconf (fun e => (e.buildRoleLinks.1, Res.unit))).NonEmpty :=
  ⟨load_autoSave, clear_autoSave, fun e => setRm_autoSave e _, fun e => setModel_autoSave e _ _,
    fun e => setAdapter_autoSave e _, fun _ => rfl⟩

/-- the cache key separates a plain request from a context-qualified one with the same values, and contexts that differ in
a section name (regression for the repaired key) -/
example : (([] : List Val), "") ≠ (([] : List Val), "ctx:r2-p2-e2-m2") := by decide +kernel
example : (([] : List Val), "ctx:r2-p2-e2-m2") ≠ (([] : List Val), "ctx:r2-p2-e2-m3") := by decide +kernel

def demoOracle : Oracle := fun e _ => .ok e.enabled
def dummy : Enforcer :=
  { defs := ⟨[], [], []⟩, store := ⟨[], []⟩, adapter := AdapterSt.mk0 .null, rm := RoleMgr.new 10, enabled := true,
    autoSave := true, autoBuild := true, autoNotify := true, callbacks := 1, hasWatcher := false, gfuncs := [],
    userFns := [], log := [] }
example : CacheSound demoOracle { inner := dummy, cache := [(([], ""), true)] } := by
  intro k v hm
  simp only [List.mem_singleton, Prod.mk.injEq] at hm
  obtain ⟨_, h⟩ := hm; subst h; rfl
/-- what `CacheSound` excludes: an entry cached while enforcement was disabled, stale after re-enabling (so
`enable_enforce` clears the cache) -/
example : ¬ CacheSound demoOracle { inner := { dummy with enabled := false }, cache := [(([], ""), true)] } := by
  intro h; have := h ([], "") true (by simp); simp [demoOracle] at this

/-- the premises of `cached_history` are satisfiable -/
example :
    let c : Cached := { inner := { dummy with autoSave := false }, cache := [] }
    let ops := [COp.mgmt (.add "p" "p" ["a"]), .enforce ([], ""), .mgmt (.removeMany "p" "p" [["a"]])]
    ((ops.foldl (cstep demoOracle) c).enforceWith ([], "") (fun e => demoOracle e ([], ""))).2 =
      demoOracle (ops.foldl (cstep demoOracle) c).inner ([], "") :=
  cached_history demoOracle (fun e e' h k => by simp [demoOracle, h.2.2.2.2.1]) _ _ (new_sound _ _) rfl
    (by intro op hop
        simp only [List.mem_cons, List.not_mem_nil, or_false] at hop
        rcases hop with h | h | h <;> subst h <;> simp [COp.NonEmpty, MOp.NonEmpty]) _

/-- the plain-request oracle meets the premise of `cached_history_any` -/
example (call : String → List String → Option Atom) (tbl : String → Option Expr) (ops : List COp) (c : Cached)
    (hs : CacheSound (fun e k => e.enforce call tbl k.1) c) (hne : ∀ op ∈ ops, ∀ m, op = COp.mgmt m → m.NonEmpty) (k : CacheKey) :
    let c' := ops.foldl (cstep (fun e k => e.enforce call tbl k.1)) c
    (c'.enforceWith k (fun e => e.enforce call tbl k.1)).2 = c'.inner.enforce call tbl k.1 :=
  cached_history_any (fun e k => e.enforce call tbl k.1)
    (fun e e' h k => enforce_oracle_decision call tbl e e' h k.1) ops c hs hne k

end Casbin.C11
