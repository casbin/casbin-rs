import CasbinModel.Fs
import CasbinModel.Lemmas.Mgmt
/-!
# C10 — Failed storage operations change nothing   (*partial*: real crashes without fsync)

* a management call the adapter rejects (`Err` or `Ok(false)`) moves only the adapter's own bookkeeping, here the fault
  plan (`sameCore`; the equation is `mgmt_rejected`), for all five internal operations and `clear_policy`;
* a failing `load_policy` / `load_filtered_policy` (adapter error at any point, or a failing role-link build) leaves the
  previous policy in force;
* `save_policy_file` is atomic under write failures and at every crash point of its step list: the policy file holds
  the old or the new text, never a truncated one.
-/
namespace Casbin.C10
open Casbin

/-! ### A rejected adapter call -/

/-- the fields this property speaks about: every field except `adapter`, `autoNotify`, `callbacks`, `hasWatcher`, `userFns`
(of these a rejected call moves the adapter's fault plan only: `mgmt_rejected` is the full equation) -/
def sameCore (e e' : Enforcer) : Prop :=
  e'.store = e.store ∧ e'.rm = e.rm ∧ e'.defs = e.defs ∧ e'.gfuncs = e.gfuncs ∧
  e'.enabled = e.enabled ∧ e'.log = e.log ∧ e'.autoSave = e.autoSave ∧ e'.autoBuild = e.autoBuild

/-- the next adapter call is rejected -/
def Rejecting (a : AdapterSt) : Prop := ∃ f rest, a.plan = f :: rest ∧ (f = .err ∨ f = .refuse)

theorem nextFault_rejecting {a : AdapterSt} (h : Rejecting a) :
    (a.nextFault.1 = .err ∨ a.nextFault.1 = .refuse) := by
  obtain ⟨f, rest, hp, hf⟩ := h
  simp [AdapterSt.nextFault, hp, hf]

theorem sameCore_adapter (e : Enforcer) (a : AdapterSt) : sameCore e { e with adapter := a } :=
  ⟨rfl, rfl, rfl, rfl, rfl, rfl, rfl, rfl⟩

/-- **A rejected management call is a no-op**, reported as `Err` or as "nothing changed". -/
theorem rejected_mgmt (e : Enforcer) (m : Mgmt) (has : e.autoSave = true) (hr : Rejecting e.adapter) :
    sameCore e (e.mgmt m).1 ∧ ((e.mgmt m).2 = .err .adapter ∨ (e.mgmt m).2 = m.ret false []) := by
  obtain ⟨f, rest, hp, hf⟩ := hr
  rcases hf with h | h <;> subst h <;> rw [mgmt_rejected e m has hp (by decide)]
  · exact ⟨sameCore_adapter e _, Or.inl rfl⟩
  · exact ⟨sameCore_adapter e _, Or.inr rfl⟩

theorem rejected_add (e : Enforcer) (sec pt : String) (rule : Rule) (has : e.autoSave = true)
    (hr : Rejecting e.adapter) :
    sameCore e (e.addPolicy sec pt rule).1 ∧
    ((e.addPolicy sec pt rule).2 = .err .adapter ∨ (e.addPolicy sec pt rule).2 = .bool false) := by
  rw [Enforcer.addPolicy_eq]; exact rejected_mgmt e _ has hr

theorem rejected_addMany (e : Enforcer) (sec pt : String) (rules : List Rule) (has : e.autoSave = true)
    (hr : Rejecting e.adapter) :
    sameCore e (e.addPolicies sec pt rules).1 ∧
    ((e.addPolicies sec pt rules).2 = .err .adapter ∨ (e.addPolicies sec pt rules).2 = .bool false) := by
  rw [Enforcer.addPolicies_eq]; exact rejected_mgmt e _ has hr

theorem rejected_remove (e : Enforcer) (sec pt : String) (rule : Rule) (has : e.autoSave = true)
    (hr : Rejecting e.adapter) :
    sameCore e (e.removePolicy sec pt rule).1 ∧
    ((e.removePolicy sec pt rule).2 = .err .adapter ∨ (e.removePolicy sec pt rule).2 = .bool false) := by
  rw [Enforcer.removePolicy_eq]; exact rejected_mgmt e _ has hr

theorem rejected_removeMany (e : Enforcer) (sec pt : String) (rules : List Rule) (has : e.autoSave = true)
    (hr : Rejecting e.adapter) :
    sameCore e (e.removePolicies sec pt rules).1 ∧
    ((e.removePolicies sec pt rules).2 = .err .adapter ∨ (e.removePolicies sec pt rules).2 = .bool false) := by
  rw [Enforcer.removePolicies_eq]; exact rejected_mgmt e _ has hr

theorem rejected_removeFiltered (e : Enforcer) (sec pt : String) (idx : Nat) (vals : List String)
    (has : e.autoSave = true) (hr : Rejecting e.adapter) :
    sameCore e (e.removeFiltered sec pt idx vals).1 ∧
    ((e.removeFiltered sec pt idx vals).2 = .err .adapter ∨ (e.removeFiltered sec pt idx vals).2 = .rules false []) := by
  rw [Enforcer.removeFiltered_eq]; exact rejected_mgmt e _ has hr

theorem rejected_clear (e : Enforcer) (has : e.autoSave = true) (hr : Rejecting e.adapter) :
    sameCore e e.clearPolicy.1 ∧ e.clearPolicy.2 = .err .adapter := by
  obtain ⟨f, rest, hp, hf⟩ := hr
  unfold Enforcer.clearPolicy AdapterSt.clear AdapterSt.nextFault
  rw [if_pos has, hp]
  rcases hf with h | h <;> subst h <;> exact ⟨sameCore_adapter e _, rfl⟩

/-- decisions are a function of the core: after a rejected call every `enforce` is as before -/
theorem enforce_depends_on_core (e e' : Enforcer) (h : sameCore e e') (call : String → List String → Option Atom)
    (tbl : String → Option Expr) (req : List Val) :
    e'.enforce call tbl req = e.enforce call tbl req :=
  Enforcer.enforce_congr h.1 h.2.1 h.2.2.1 h.2.2.2.1 h.2.2.2.2.1 call tbl req

/-! ### Failing loads and saves -/

/-- **A failing load keeps the previous policy**, whatever the adapter delivered before it failed (`a`, `s`);
`load_policy` and `load_filtered_policy` are both `e.finishLoad e.store a s ok` of what the adapter returns. -/
theorem failed_load_keeps_policy (e : Enforcer) (a : AdapterSt) (s : Store) :
    (e.finishLoad e.store a s none).1.store = e.store ∧
    (e.finishLoad e.store a s none).2 = .err .adapter := by
  rw [finishLoad_eq]
  exact ⟨rfl, rfl⟩

theorem failed_load_relinks (e : Enforcer) (a : AdapterSt) (s : Store) :
    (e.finishLoad e.store a s none).1.rm = (e.relink e.rm e.store.g).1 := by
  rw [finishLoad_eq]; rfl

theorem failed_load_links (e : Enforcer) (a : AdapterSt) (s : Store) (hb : e.autoBuild = true) :
    (e.finishLoad e.store a s none).1.rm = (Casbin.buildRoleLinks e.rm e.store.g).1 :=
  (failed_load_relinks e a s).trans (congrArg Prod.fst (relink_on hb _ _))

/-- auto-build off: the error path builds and drops no link, so whatever lag there is between graph and rules stays -/
theorem failed_load_links_manual (e : Enforcer) (a : AdapterSt) (s : Store) (hb : e.autoBuild = false) :
    (e.finishLoad e.store a s none).1.rm = e.rm :=
  (failed_load_relinks e a s).trans (congrArg Prod.fst (relink_off hb _ _))

/-- **a load that fails in the role-link rebuild** (every rule delivered, `some ()`, but a grouping rule cannot be
linked): the previous rules are back, the error is reported, and the graph is a rebuild of the previous rules, cleared
first so that nothing of the rejected policy survives (what the seeded changes C05-7 and C10-8 break) -/
theorem failed_rebuild_restores (e : Enforcer) (a : AdapterSt) (s : Store) (hb : e.autoBuild = true) (k : ErrKind)
    (hfail : (Casbin.buildRoleLinks e.rm s.g).2 = some k) :
    (e.finishLoad e.store a s (some ())).1.store = e.store ∧
    (e.finishLoad e.store a s (some ())).2 = .err k ∧
    (e.finishLoad e.store a s (some ())).1.rm =
      (Casbin.buildRoleLinks (Casbin.buildRoleLinks e.rm s.g).1 e.store.g).1 := by
  have hl : e.loadLinks s (some ()) = Casbin.buildRoleLinks e.rm s.g := relink_on hb _ _
  rw [finishLoad_eq, hl, hfail]
  exact ⟨rfl, rfl, congrArg Prod.fst (relink_on hb _ _)⟩

/-- that graph does not depend on what the failed rebuild left: a rebuild clears the manager first -/
theorem failed_rebuild_links_clean (e : Enforcer) (s : Store) :
    (Casbin.buildRoleLinks (Casbin.buildRoleLinks e.rm s.g).1 e.store.g) = Casbin.buildRoleLinks e.rm e.store.g :=
  buildRoleLinks_rebuild e.rm s.g e.store.g

/-- **a `save_policy` the adapter fails changes nothing the property speaks about**; the adapter's state is the one it
returned -/
theorem failed_save_changes_nothing (e : Enforcer) (hf : e.adapter.filtered = false) (a : AdapterSt)
    (hfail : e.adapter.save e.store = (a, none)) :
    e.savePolicy.1 = { e with adapter := a } ∧ sameCore e e.savePolicy.1 ∧ (∃ k, e.savePolicy.2 = .err k) := by
  have h1 : e.savePolicy = ({ e with adapter := a }, .err (e.adapter.saveErr e.store)) := by
    unfold Enforcer.savePolicy
    rw [if_neg (by rw [hf]; exact Bool.false_ne_true), hfail]
  rw [h1]
  exact ⟨rfl, sameCore_adapter e a, _, rfl⟩

/-- an adapter that rejects the save keeps its lines and text: the storage still holds the old policy -/
theorem rejected_save_keeps_store (a : AdapterSt) (s : Store) (hr : Rejecting a) :
    (a.save s).2 = none ∧ (a.save s).1.lines = a.lines ∧ (a.save s).1.text = a.text := by
  obtain ⟨f, rest, hp, hf⟩ := hr
  unfold AdapterSt.save AdapterSt.nextFault
  rw [hp]
  rcases hf with h | h <;> subst h <;> exact ⟨rfl, rfl, rfl⟩

/-! ### The file save is atomic -/

theorem lookup_filter_ne (l : List (String × Bytes)) {p q : String} (h : q ≠ p) :
    (l.filter (fun f => f.1 ≠ p)).lookup q = l.lookup q := by
  induction l with
  | nil => rfl
  | cons f l ih =>
    obtain ⟨f1, c⟩ := f
    by_cases hf : f1 = p
    · rw [List.filter_cons_of_neg (by simpa using hf), ih, List.lookup_cons, hf, beq_false_of_ne h]
    · rw [List.filter_cons_of_pos (by simpa using hf), List.lookup_cons, List.lookup_cons, ih]

theorem read_set_same (fs : Fs) (p : String) (c : Bytes) : (fs.set p c).read p = some c := List.lookup_cons_self

theorem read_set_other (fs : Fs) {p q : String} (c : Bytes) (h : q ≠ p) : (fs.set p c).read q = fs.read q := by
  show List.lookup q ((p, c) :: _) = _
  rw [List.lookup_cons, beq_false_of_ne h]
  exact lookup_filter_ne _ h

theorem read_remove_other (fs : Fs) {p q : String} (h : q ≠ p) : (fs.remove p).read q = fs.read q :=
  lookup_filter_ne _ h

theorem tmp_ne (path : String) : path ≠ path ++ ".tmp" := by
  intro h
  have := congrArg String.length h
  simp at this

/-- the policy file along the steps of a save -/
theorem read_steps (fs : Fs) (path : String) (c : Bytes) :
    let s2 := (fs.set (path ++ ".tmp") []).set (path ++ ".tmp") c
    (fs.set (path ++ ".tmp") []).read path = fs.read path ∧ s2.read path = fs.read path ∧
    (s2.remove (path ++ ".tmp")).read path = fs.read path ∧ (s2.rename (path ++ ".tmp") path).read path = some c := by
  have h1 := read_set_other fs [] (tmp_ne path)
  have h2 := (read_set_other (fs.set (path ++ ".tmp") []) c (tmp_ne path)).trans h1
  refine ⟨h1, h2, (read_remove_other _ (tmp_ne path)).trans h2, ?_⟩
  unfold Fs.rename
  rw [read_set_same]
  exact read_set_same _ _ _

/-- **Atomic save**: at every crash point and for every write budget, the policy file holds the old contents or the
complete new text. -/
theorem save_atomic (fs : Fs) (path : String) (text : Bytes) (k : Nat) :
    ∀ st ∈ saveAtomicStates fs path text k, st.read path = fs.read path ∨ st.read path = some text := by
  intro st hst
  unfold saveAtomicStates at hst
  dsimp only at hst
  -- a failed write, then a successful one: before, temp file created, temp file written, temp file removed / renamed
  split at hst <;> simp only [List.mem_cons, List.not_mem_nil, or_false] at hst <;> rcases hst with rfl | rfl | rfl | rfl
  · exact .inl rfl
  · exact .inl (read_steps fs path []).1
  · exact .inl (read_steps fs path _).2.1
  · exact .inl (read_steps fs path _).2.2.1
  · exact .inl rfl
  · exact .inl (read_steps fs path []).1
  · exact .inl (read_steps fs path _).2.1
  · exact .inr (read_steps fs path _).2.2.2

/-- the last state holds the new text iff the write fitted the budget -/
theorem save_final (fs : Fs) (path : String) (text : Bytes) (k : Nat) :
    ((saveAtomicStates fs path text k).getLast?.bind (·.read path)) =
      if saveAtomicOk text k then some text else fs.read path := by
  unfold saveAtomicStates saveAtomicOk
  by_cases hk : k < text.length
  · rw [if_pos hk, decide_eq_true hk]
    exact (read_steps fs path _).2.2.1
  · rw [if_neg hk, decide_eq_false hk]
    exact (read_steps fs path _).2.2.2

/-- the pre-repair code was not atomic: a budget of 3 bytes truncates (regression witness, F5) -/
example : ∃ st ∈ saveTruncatingStates ⟨[("p.csv", [1, 2, 3, 4, 5])]⟩ "p.csv" [9, 9, 9, 9, 9, 9] 3,
    st.read "p.csv" ≠ some [1, 2, 3, 4, 5] ∧ st.read "p.csv" ≠ some [9, 9, 9, 9, 9, 9] :=
  ⟨_, .tail _ (.tail _ (.head _)), by decide +kernel⟩

end Casbin.C10
