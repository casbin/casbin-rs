import CasbinModel.Lemmas.Mgmt
/-!
# C18 — A reconfigured enforcer equals a freshly built one

`set_model` on any enforcer (auto-build on, an unfiltered adapter, the default hierarchy limit 10) produces the same
policy store, role manager, definitions, adapter state and result as `Enforcer::new` on the same model and adapter; the
engine's g-function table is a superset of the fresh one (registrations are never removed), which a matcher that only
calls the role functions its own model defines cannot observe.  `set_adapter` and `set_role_manager` likewise.
-/
namespace Casbin.C18
open Casbin

/-- the fields a reload determines (not `enabled` and the other switches, which `set_model` keeps, nor the function
tables; not `C10.sameCore`, which leaves the adapter out and keeps the switches) -/
structure SameCore (e e' : Enforcer) : Prop where
  store : e'.store = e.store
  rm : e'.rm = e.rm
  defs : e'.defs = e.defs
  adapter : e'.adapter = e.adapter

/-- `load_policy` (auto-build on) reads the store, the adapter and the role manager's hierarchy limit only (the store and
not just its layout: a failing load puts the old rules back) -/
theorem loadPolicy_congr (e e' : Enforcer) (hstore : e'.store = e.store) (hadapter : e'.adapter = e.adapter)
    (hb : e.autoBuild = true) (hb' : e'.autoBuild = true) (hlevel : e'.rm.maxLevel = e.rm.maxLevel)
    (hdefs : e'.defs = e.defs) :
    e'.loadPolicy.2 = e.loadPolicy.2 ∧ SameCore e.loadPolicy.1 e'.loadPolicy.1 := by
  have hre : ∀ (rm rm' : RoleMgr String) (g : List PolDef), rm.maxLevel = rm'.maxLevel → e'.relink rm g = e.relink rm' g :=
    fun rm rm' g h => by rw [relink_on hb, relink_on hb', buildRoleLinks_congr h g]
  unfold Enforcer.loadPolicy
  rw [hstore, hadapter, finishLoad_eq, finishLoad_eq]
  cases (e.adapter.load e.store.clear).2.2 with
  | none => exact ⟨rfl, rfl, congrArg Prod.fst (hre _ _ _ hlevel), hdefs, rfl⟩
  | some u =>
    rw [show e'.loadLinks _ (some u) = e.loadLinks _ (some u) from hre _ _ _ hlevel]
    cases (e.loadLinks (e.adapter.load e.store.clear).2.1 (some u)).2 with
    | none => exact ⟨rfl, rfl, rfl, hdefs, rfl⟩
    | some k => exact ⟨rfl, rfl, congrArg Prod.fst (hre _ _ _ rfl), hdefs, rfl⟩

/-- **set_model = fresh construction** on store, role manager, definitions, adapter and result; the registered g-functions
are a superset of the fresh enforcer's. -/
theorem setModel_eq_fresh (e : Enforcer) (defs : Defs) (store : Store)
    (hb : e.autoBuild = true) (hf : e.adapter.filtered = false) (hm : e.rm.maxLevel = 10) :
    match Enforcer.new defs store e.adapter with
    | none => (e.setModel defs store).2 = .err .model
    | some (f, rf) =>
      (e.setModel defs store).2 = rf ∧ SameCore f (e.setModel defs store).1 ∧
      (∀ x ∈ f.gfuncs, x ∈ (e.setModel defs store).1.gfuncs) := by
  unfold Enforcer.new Enforcer.newRaw Enforcer.setModel
  dsimp only
  rw [registerG_clear, registerG_acc store.g e.gfuncs]
  cases hr : registerG [] store.g with
  | none => simp
  | some gf =>
    simp only [Option.map_some, hf, Bool.false_eq_true, if_false]
    -- the fresh enforcer and the reconfigured one meet `loadPolicy_congr`; what is left is the function table
    refine And.imp_right (fun h => ⟨h, ?_⟩) (loadPolicy_congr _ _ rfl rfl rfl hb (by simp [hm, RoleMgr.new]) rfl)
    intro x hx
    -- load_policy does not touch the function table
    have hg (z : Enforcer) : z.loadPolicy.1.gfuncs = z.gfuncs := by
      obtain ⟨_, _, h⟩ := finishLoad_frame z z.store _ _ _
      unfold Enforcer.loadPolicy
      rw [h]
    rw [hg] at hx ⊢
    exact List.mem_append.mpr (Or.inr hx)

/-- **set_adapter = `load_policy` with that adapter on a fresh role manager**: what the old role manager held is irrelevant -/
theorem setAdapter_eq_fresh (e : Enforcer) (a : AdapterSt) (hb : e.autoBuild = true) :
    (e.setAdapter a).2 = ({ e with adapter := a, rm := RoleMgr.new e.rm.maxLevel } : Enforcer).loadPolicy.2 ∧
    SameCore ({ e with adapter := a, rm := RoleMgr.new e.rm.maxLevel } : Enforcer).loadPolicy.1 (e.setAdapter a).1 := by
  unfold Enforcer.setAdapter
  exact loadPolicy_congr _ _ rfl rfl hb hb (by simp [RoleMgr.new]) rfl

theorem setRoleManagerWith_registered (e : Enforcer) (rm0 : RoleMgr String) (gf : List (String × Nat))
    (hgf : registerG [] e.store.g = some gf) :
    e.setRoleManagerWith rm0 =
      ({ e with rm := (e.relink rm0 e.store.g).1, gfuncs := e.gfuncs ++ gf }, Res.unit.orErr (e.relink rm0 e.store.g).2) := by
  rw [setRoleManagerWith_eq, registerG_acc e.store.g e.gfuncs, hgf]; rfl

/-- **set_role_manager**: the new manager holds exactly what a rebuild produces, and every role definition is
(re-)registered -/
theorem setRoleManager_spec (e : Enforcer) (hb : e.autoBuild = true) :
    (Casbin.buildRoleLinks (RoleMgr.new 10) e.store.g).2 = none →
    (∀ gf, registerG [] e.store.g = some gf →
      e.setRoleManager.1.rm = (Casbin.buildRoleLinks (RoleMgr.new 10) e.store.g).1 ∧
      e.setRoleManager.1.store = e.store ∧
      e.setRoleManager.2 = .unit ∧ ∀ x ∈ gf, x ∈ e.setRoleManager.1.gfuncs) := by
  intro hok gf hgf
  unfold Enforcer.setRoleManager
  rw [setRoleManagerWith_registered e _ gf hgf, relink_on hb, hok]
  exact ⟨rfl, rfl, rfl, fun x hx => List.mem_append.mpr (Or.inr hx)⟩

/-- **a failing rebuild still leaves the role functions on the new manager** (regression for F24): the error is reported,
the functions of every role definition are registered all the same, so decisions and link maintenance keep using one
manager (in the model there is a single `rm` field; the crate's closures capture it at registration time) -/
theorem setRoleManager_failing_build_registers (e : Enforcer) (hb : e.autoBuild = true) (k : ErrKind)
    (hfail : (Casbin.buildRoleLinks (RoleMgr.new 10) e.store.g).2 = some k) (gf : List (String × Nat))
    (hgf : registerG [] e.store.g = some gf) :
    e.setRoleManager.2 = .err k ∧ ∀ x ∈ gf, x ∈ e.setRoleManager.1.gfuncs := by
  unfold Enforcer.setRoleManager
  rw [setRoleManagerWith_registered e _ gf hgf, relink_on hb, hfail]
  exact ⟨rfl, fun x hx => List.mem_append.mpr (Or.inr hx)⟩

/-- **a handed-over manager's previous content is irrelevant** (auto-build on, role definitions well-formed), be it fresh or
a kept handle that went stale while detached, given the same hierarchy limit -/
theorem setRoleManagerWith_content_irrelevant (e : Enforcer) (hb : e.autoBuild = true) (r1 r2 : RoleMgr String)
    (hm : r1.maxLevel = r2.maxLevel) (hreg : (registerG e.gfuncs e.store.g).isSome = true) :
    e.setRoleManagerWith r1 = e.setRoleManagerWith r2 := by
  rw [setRoleManagerWith_eq, setRoleManagerWith_eq]
  cases hr : registerG e.gfuncs e.store.g with
  | none => rw [hr] at hreg; cases hreg
  | some gf =>
    rw [relink_on hb, relink_on hb, buildRoleLinks_congr hm]

/-- handing back a stale handle is installing a fresh manager -/
theorem setRoleManagerWith_eq_fresh (e : Enforcer) (hb : e.autoBuild = true) (r : RoleMgr String) (hm : r.maxLevel = 10)
    (hreg : (registerG e.gfuncs e.store.g).isSome = true) :
    e.setRoleManagerWith r = e.setRoleManager :=
  setRoleManagerWith_content_irrelevant e hb r (RoleMgr.new 10) (by simp [hm, RoleMgr.new]) hreg

/-- auto-build off: `set_role_manager` installs the manager as handed over (its links are the caller's business until
`build_role_links`) and registers the role functions all the same, so that decisions, role queries and the later rebuild
use that one manager -/
theorem setRoleManagerWith_manual (e : Enforcer) (hb : e.autoBuild = false) (r : RoleMgr String) (gf : List (String × Nat))
    (hgf : registerG [] e.store.g = some gf) :
    (e.setRoleManagerWith r).1.rm = r ∧ (e.setRoleManagerWith r).2 = .unit ∧
    (e.setRoleManagerWith r).1.store = e.store ∧ ∀ x ∈ gf, x ∈ (e.setRoleManagerWith r).1.gfuncs := by
  rw [setRoleManagerWith_registered e r gf hgf, relink_off hb]
  exact ⟨rfl, rfl, rfl, fun x hx => List.mem_append.mpr (Or.inr hx)⟩

/-- the explicit rebuild that follows fills exactly that manager from the stored rules -/
theorem build_after_manual_set (e : Enforcer) (hb : e.autoBuild = false) (r : RoleMgr String) (gf : List (String × Nat))
    (hgf : registerG [] e.store.g = some gf) :
    (e.setRoleManagerWith r).1.buildRoleLinks.1.rm = (Casbin.buildRoleLinks r e.store.g).1 := by
  obtain ⟨h1, _, h3, _⟩ := setRoleManagerWith_manual e hb r gf hgf
  unfold Enforcer.buildRoleLinks
  dsimp only
  rw [h1, h3]

def aclStore : Store := ⟨[{ key := "p", tokens := ["p_sub"], arity := 0, policy := [] }], []⟩
def rbacStore : Store := ⟨[{ key := "p", tokens := ["p_sub"], arity := 0, policy := [] }],
                          [{ key := "g", tokens := [], arity := 2, policy := [] }]⟩
def memA : AdapterSt := { kind := .memory, lines := [["p", "p", "admin"], ["g", "g", "alice", "admin"]], text := [], filtered := false, plan := [] }
/-- starting from an ACL model, `set_model(rbac)` registers `g` (before the repair of F11 it did not) and the links of the
reloaded grouping rules are in force -/
example : (Enforcer.new ⟨[], [], []⟩ aclStore memA).map (fun p =>
      decide (("g", 2) ∈ (p.1.setModel ⟨[], [], []⟩ rbacStore).1.gfuncs) &&
      (p.1.setModel ⟨[], [], []⟩ rbacStore).1.rm.hasLink "alice" "admin" "DEFAULT") = some true := by
  decide +kernel

end Casbin.C18
