import CasbinModel.Lemmas.Scan
import CasbinModel.Lemmas.Mono
import CasbinModel.Props.C01
import CasbinModel.Props.C03
import CasbinModel.Props.C04
/-! # C07 — Tenants are isolated in domain models

Three ingredients, each for arbitrary policies, role graphs and histories:
* role manager: a change in another domain leaves this domain's graph, hence its role queries, unchanged (C03);
* decisions: if the matcher gives `some false` on every rule of another domain (as one containing `r.dom == p.dom`
  does), a decision depends only on the ordered sub-list of this domain's rules and the matcher's values on them;
* store view: a management call that names no rule of this domain leaves that sub-list as it was.

`tenant_isolation` and `tenant_isolation_history` compose them for a matcher AST whose role lookups all name the
request's tenant (`DomOnly`); `tenant_isolation_enforce` says the same of `Enforcer.enforce`.

The hypothesis "both stores non-empty" is forced by the empty-store branch of `enforce` (evaluated on the crate on
every run; with non-empty request values it cannot arise). -/
namespace Casbin.C07
open Casbin

/-! ### The role manager -/

/-- a domain's role queries are functions of its graph, which a call for another domain leaves alone -/
theorem role_queries_isolated (rm : RoleMgr String) (a b d d' x y : String) (hd : d' ≠ d) :
    let rm1 := rm.apply (.add a b d')
    let rm2 := rm.apply (.del a b d')
    (rm1.hasLink x y d = rm.hasLink x y d ∧ rm1.getRoles x d = rm.getRoles x d ∧ rm1.getUsers x d = rm.getUsers x d) ∧
    (rm2.hasLink x y d = rm.hasLink x y d ∧ rm2.getRoles x d = rm.getRoles x d ∧ rm2.getUsers x d = rm.getUsers x d) := by
  have hg := apply_graph?_ne rm a b hd
  exact ⟨C03.queries_depend_only_on_domain_graph _ _ d hg.1 (maxLevel_apply rm _) x y,
         C03.queries_depend_only_on_domain_graph _ _ d hg.2 (maxLevel_apply rm _) x y⟩

/-- a role-manager call made for another tenant -/
def RmOp.Outside (d : String) : RmOp String → Prop
  | .add _ _ d' => d' ≠ d
  | .del _ _ d' => d' ≠ d
  | .clear => False

theorem graph_step_outside (rm : RoleMgr String) (op : RmOp String) (d : String) (h : RmOp.Outside d op) :
    (rm.apply op).graph? d = rm.graph? d := by
  cases op with
  | add a b d' => exact (apply_graph?_ne rm a b h).1
  | del a b d' => exact (apply_graph?_ne rm a b h).2
  | clear => exact h.elim

theorem graph_history_outside (rm : RoleMgr String) (ops : List (RmOp String)) (d : String)
    (h : ∀ op ∈ ops, RmOp.Outside d op) :
    (rm.run ops).graph? d = rm.graph? d ∧ (rm.run ops).maxLevel = rm.maxLevel := by
  refine ⟨?_, maxLevel_run rm ops⟩
  induction ops generalizing rm with
  | nil => rfl
  | cons op ops ih =>
    exact (ih _ fun o ho => h o (List.mem_cons_of_mem _ ho)).trans
      (graph_step_outside rm op d (h op List.mem_cons_self))

/-! ### Decisions -/

/-- **Decisions depend only on the tenant's view.**  `inD` selects the rules of the observed domain; the rules
outside it are well-formed and never match (`hout`, `hout'`). -/
theorem decisions_depend_on_view (c c' : EvalCfg) (reqLen : Nat) (m m' : MatchFn) (ex : EffExpr)
    (hr : C01.Ready c reqLen ex) (hr' : C01.Ready c' reqLen ex)
    (htok : c.ptokens = c'.ptokens) (heft : c.eftToken = c'.eftToken)
    (hne : c.policy ≠ []) (hne' : c'.policy ≠ []) (inD : Rule → Bool)
    (hview : c.policy.filter inD = c'.policy.filter inD)
    (hm : ∀ rule, inD rule = true → m rule = m' rule)
    (hout : ∀ rule ∈ c.policy, inD rule = false → rule.length = c.ptokens.length ∧ m rule = some false)
    (hout' : ∀ rule ∈ c'.policy, inD rule = false → rule.length = c'.ptokens.length ∧ m' rule = some false) :
    enforceCore c reqLen m = enforceCore c' reqLen m' := by
  -- a well-formed rule that does not match is `ok indet`, which the scan drops
  rw [C01.enforce_eq_reference c reqLen m ex hr hne, C01.enforce_eq_reference c' reqLen m' ex hr' hne',
    refScan_restrict ex c.policy inD _ fun r hmem hi => ruleOutcome_of_some _ (hout r hmem hi).1 (hout r hmem hi).2,
    refScan_restrict ex c'.policy inD _ fun r hmem hi => ruleOutcome_of_some _ (hout' r hmem hi).1 (hout' r hmem hi).2,
    hview, ← htok, ← heft]
  congr 1
  apply List.map_congr_left
  intro rule hrule
  unfold ruleOutcome
  rw [hm rule (List.mem_filter.mp hrule).2]

/-- why the generated domain models meet `hout` of `decisions_depend_on_view`: their matchers are
`first && r.dom == p.dom && rest` with a `first` that cannot fail -/
theorem domain_guard_rejects (env : Env) (first rest : Expr) (ri pi : Nat) (rd pd : String) (b : Bool)
    (hfirst : first.eval env 8 = some (.atom (.bool b)))
    (hr : env.req[ri]? = some (.atom (.str rd))) (hp : env.rule[pi]? = some pd) (hne : rd ≠ pd) :
    (Expr.and (Expr.and first (.cmp .eq (.r ri) (.p pi))) rest).evalBool env = some false := by
  have hcmp := cmp_eval (op := .eq) ((r_eval env 8 ri).trans hr) ((p_eval env 8 pi).trans (congrArg _ hp))
  rw [show cmpVal .eq (.atom (.str rd)) (.atom (.str pd)) = false from beq_false_of_ne hne] at hcmp
  -- `&&` stops at the first `false`: `rest` is not looked at
  have hguard := and_eval hfirst fun _ => hcmp
  rw [Bool.and_false] at hguard
  exact evalBool_eq_some.mpr (and_eval (y := false) hguard nofun)

/-! ### The store view

A rule operation that names only rules outside `inD` does not show through `filter inD`. -/

section
variable {α : Type} [DecidableEq α]

theorem filter_add_outside (inD : α → Bool) (l : List α) (r : α) (h : inD r = false) :
    (OrdSet.add l r).1.filter inD = l.filter inD := by
  rw [OrdSet.add_fst]
  split
  · rfl
  · rw [List.filter_append, List.filter_cons_of_neg (by rw [h]; exact Bool.false_ne_true)]; exact List.append_nil _

theorem filter_remove_outside (inD : α → Bool) (l : List α) (r : α) (h : inD r = false) :
    (OrdSet.remove l r).1.filter inD = l.filter inD := by
  rw [OrdSet.remove_fst, ← List.erase_filter, List.erase_of_not_mem]
  exact fun hm => Bool.false_ne_true (h ▸ (List.mem_filter.mp hm).2)

theorem filter_addAll_outside (inD : α → Bool) (rs : List α) (l : List α) (h : ∀ r ∈ rs, inD r = false) :
    (OrdSet.addAll l rs).filter inD = l.filter inD := by
  induction rs generalizing l with
  | nil => rfl
  | cons r t ih =>
    exact (ih _ (fun x hx => h x (List.mem_cons_of_mem _ hx))).trans
      (filter_add_outside inD l r (h r List.mem_cons_self))

theorem filter_removeAll_outside (inD : α → Bool) (rs : List α) (l : List α) (h : ∀ r ∈ rs, inD r = false) :
    (OrdSet.removeAll l rs).filter inD = l.filter inD := by
  induction rs generalizing l with
  | nil => rfl
  | cons r t ih =>
    exact (ih _ (fun x hx => h x (List.mem_cons_of_mem _ hx))).trans
      (filter_remove_outside inD l r (h r List.mem_cons_self))

end

theorem filter_filtered_outside {α : Type} (inD fm : α → Bool) (l : List α) (h : ∀ r, fm r = true → inD r = false) :
    (l.filter (fun r => !fm r)).filter inD = l.filter inD := by
  rw [List.filter_filter]
  apply List.filter_congr
  intro r _
  cases hf : fm r with
  | false => exact Bool.and_true _
  | true => rw [h r hf]; rfl

/-- the five management calls on permission rules -/
inductive TOp where
  | add (pt : String) (rule : Rule)
  | remove (pt : String) (rule : Rule)
  | addMany (pt : String) (rules : List Rule)
  | removeMany (pt : String) (rules : List Rule)
  | removeFiltered (pt : String) (idx : Nat) (vals : List String)

def TOp.apply (s : Store) : TOp → Store
  | .add pt rule => (s.addPolicy "p" pt rule).1
  | .remove pt rule => (s.removePolicy "p" pt rule).1
  | .addMany pt rules => (s.addPolicies "p" pt rules).1
  | .removeMany pt rules => (s.removePolicies "p" pt rules).1
  | .removeFiltered pt idx vals => (s.removeFiltered "p" pt idx vals).1

/-- the call names no rule of the observed tenant; a filter selects outside rules only, as one carrying another
tenant's name in the tenant column does (`tenant_filter_confined`) -/
def TOp.Confined (inD : Rule → Bool) : TOp → Prop
  | .add _ rule => inD rule = false
  | .remove _ rule => inD rule = false
  | .addMany _ rules => ∀ r ∈ rules, inD r = false
  | .removeMany _ rules => ∀ r ∈ rules, inD r = false
  | .removeFiltered _ idx vals => ∀ r, filterMatch idx vals r = true → inD r = false

def TOp.toMOp : TOp → C04.MOp
  | .add pt rule => .add "p" pt rule
  | .remove pt rule => .remove "p" pt rule
  | .addMany pt rules => .addMany "p" pt rules
  | .removeMany pt rules => .removeMany "p" pt rules
  | .removeFiltered pt idx vals => .removeFiltered "p" pt idx vals

theorem TOp.apply_eq (s : Store) (op : TOp) : op.apply s = (C04.step s op.toMOp).1 := by
  cases op <;> rfl

theorem TOp.fn_outside (inD : Rule → Bool) (op : TOp) (h : op.Confined inD) (pol : List Rule) :
    (op.toMOp.fn pol).filter inD = pol.filter inD := by
  cases op with
  | add pt rule => exact filter_add_outside inD pol rule h
  | remove pt rule => exact filter_remove_outside inD pol rule h
  | addMany pt rules => exact filter_addAll_outside inD rules pol h
  | removeMany pt rules => exact filter_removeAll_outside inD rules pol h
  | removeFiltered pt idx vals => exact filter_filtered_outside inD (filterMatch idx vals) pol h

/-- **one confined call leaves the tenant's view alone**, under every policy type, whether the call takes effect,
reports no change, or names an unknown policy type -/
theorem view_step (inD : Rule → Bool) (s : Store) (op : TOp) (h : op.Confined inD) (pt' : String) :
    ((op.apply s).getPolicy "p" pt').filter inD = (s.getPolicy "p" pt').filter inD := by
  rw [TOp.apply_eq, C04.getPolicy_step]
  split
  · exact TOp.fn_outside inD op h _
  · rfl

/-- **every history of confined calls leaves the tenant's view alone**: `hview` of `decisions_depend_on_view` is an
invariant of whatever the other tenants do -/
theorem view_history (inD : Rule → Bool) (ops : List TOp) (s : Store) (h : ∀ op ∈ ops, op.Confined inD) (pt' : String) :
    ((ops.foldl TOp.apply s).getPolicy "p" pt').filter inD = (s.getPolicy "p" pt').filter inD := by
  induction ops generalizing s with
  | nil => rfl
  | cons op ops ih =>
    exact (ih _ fun o ho => h o (List.mem_cons_of_mem _ ho)).trans
      (view_step inD s op (h op List.mem_cons_self) pt')

/-- a filter that names another tenant in the tenant column selects no rule of the observed tenant; the conclusion is
left unreduced so that the theorem *is*
`TOp.Confined (fun r => decide (r[col]? = some d)) (.removeFiltered pt idx vals)` -/
theorem tenant_filter_confined (d d' : String) (hd : d' ≠ d) (col idx : Nat) (vals : List String) (i : Nat)
    (hi : vals[i]? = some d') (hne : d' ≠ "") (hcol : idx + i = col) :
    ∀ r : Rule, filterMatch idx vals r = true → (fun r : Rule => decide (r[col]? = some d)) r = false := by
  intro r hfm
  have h := (C04.filterMatch_iff idx vals r).1 hfm i d' hi hne
  rw [hcol] at h
  exact decide_eq_false (by rw [h]; exact fun heq => hd (Option.some.inj heq))

/-! ### Matchers that ask only about the request's tenant; the composition -/

/-- every role lookup of the matcher names the request's tenant, token `di` of the request (`g(_, _, r.dom)`; no
two-place `g`, no `eval`) -/
inductive DomOnly (di : Nat) : Expr → Prop
  | lit (a : Atom) : DomOnly di (.lit a)
  | r (i : Nat) : DomOnly di (.r i)
  | p (i : Nat) : DomOnly di (.p i)
  | attr {e : Expr} (f : String) : DomOnly di e → DomOnly di (.attr e f)
  | cmp (op : CmpOp) {a b : Expr} : DomOnly di a → DomOnly di b → DomOnly di (.cmp op a b)
  | and {a b : Expr} : DomOnly di a → DomOnly di b → DomOnly di (.and a b)
  | or {a b : Expr} : DomOnly di a → DomOnly di b → DomOnly di (.or a b)
  | not {a : Expr} : DomOnly di a → DomOnly di (.not a)
  | g3 (name : String) {a b : Expr} : DomOnly di a → DomOnly di b → DomOnly di (.g3 name a b (.r di))
  | call2 (f : String) {a b : Expr} : DomOnly di a → DomOnly di b → DomOnly di (.call2 f a b)
  | call3 (f : String) {a b c : Expr} : DomOnly di a → DomOnly di b → DomOnly di c → DomOnly di (.call3 f a b c)
  | unknownVar : DomOnly di .unknownVar

def withRm (env : Env) (rm : RoleMgr String) : Env := { env with rm := rm }

@[simp] theorem withRm_req (env : Env) (rm : RoleMgr String) : (withRm env rm).req = env.req := rfl
@[simp] theorem withRm_rule (env : Env) (rm : RoleMgr String) : (withRm env rm).rule = env.rule := rfl
@[simp] theorem withRm_rm (env : Env) (rm : RoleMgr String) : (withRm env rm).rm = rm := rfl
@[simp] theorem withRm_gfuncs (env : Env) (rm : RoleMgr String) : (withRm env rm).gfuncs = env.gfuncs := rfl
@[simp] theorem withRm_call (env : Env) (rm : RoleMgr String) : (withRm env rm).call = env.call := rfl
@[simp] theorem withRm_tbl (env : Env) (rm : RoleMgr String) : (withRm env rm).tbl = env.tbl := rfl

theorem eval_rm_congr (di : Nat) (d : String) (env : Env) (rm' : RoleMgr String)
    (hreq : env.req[di]? = some (.atom (.str d)))
    (hl : ∀ s t, env.rm.hasLink s t d = rm'.hasLink s t d)
    (e : Expr) (he : DomOnly di e) (fuel : Nat) :
    e.eval (withRm env rm') fuel = e.eval env fuel := by
  induction he with
  | lit a => unfold Expr.eval; rfl
  | r i => unfold Expr.eval; rfl
  | p i => unfold Expr.eval; rfl
  | attr f _ ih => unfold Expr.eval; rw [ih]
  | cmp op _ _ iha ihb => unfold Expr.eval; rw [iha, ihb]
  | and _ _ iha ihb => unfold Expr.eval; rw [iha, ihb]
  | or _ _ iha ihb => unfold Expr.eval; rw [iha, ihb]
  | not _ ih => unfold Expr.eval; rw [ih]
  | @g3 name a b _ _ iha ihb =>
    unfold Expr.eval
    rw [iha, ihb, r_eval, r_eval, withRm_req, hreq]
    -- the third operand is the tenant `d`: the sides differ at most in which manager is asked about `d`
    cases a.eval env fuel with
    | none => rfl
    | some x =>
    cases b.eval env fuel with
    | none => rfl
    | some y =>
    dsimp only
    cases asStr x with
    | none => rfl
    | some s =>
    cases asStr y with
    | none => rfl
    | some t => dsimp only [asStr, withRm]; rw [hl]; rfl
  | call2 f _ _ iha ihb => unfold Expr.eval; rw [iha, ihb]; rfl
  | call3 f _ _ _ iha ihb ihc => unfold Expr.eval; rw [iha, ihb, ihc]; rfl
  | unknownVar => unfold Expr.eval; rfl

/-- the matcher `ex` as the rule loop calls it -/
def matcherOf (ex : Expr) (env : Env) : MatchFn := fun rule => ex.evalBool { env with rule := rule }

theorem matcherOf_rm_congr (di : Nat) (d : String) (env : Env) (rm' : RoleMgr String)
    (hreq : env.req[di]? = some (.atom (.str d)))
    (hg : env.rm.graph? d = rm'.graph? d) (hm : env.rm.maxLevel = rm'.maxLevel)
    (ex : Expr) (he : DomOnly di ex) (rule : Rule) :
    matcherOf ex (withRm env rm') rule = matcherOf ex env rule := by
  unfold matcherOf Expr.evalBool
  have := eval_rm_congr di d { env with rule := rule } rm' hreq
    (fun s t => (C03.queries_depend_only_on_domain_graph env.rm rm' d hg hm s t).1) ex he 8
  simp only [withRm] at this ⊢
  rw [this]

/-- **tenant isolation, decisions**: for a matcher whose role lookups name the request's tenant `d` and which rejects
every rule outside `d` (`inD`), the decision survives replacing the role manager by one that agrees on `d`'s graph and
the stored rules by any list with the same `d`-rules in the same order. -/
theorem tenant_isolation (c c' : EvalCfg) (reqLen : Nat) (eff : EffExpr) (ex : Expr) (di : Nat) (d : String)
    (env : Env) (rm' : RoleMgr String)
    (hdo : DomOnly di ex) (hreq : env.req[di]? = some (.atom (.str d)))
    (hg : env.rm.graph? d = rm'.graph? d) (hml : env.rm.maxLevel = rm'.maxLevel)
    (hr : C01.Ready c reqLen eff) (hr' : C01.Ready c' reqLen eff)
    (htok : c.ptokens = c'.ptokens) (heft : c.eftToken = c'.eftToken)
    (hne : c.policy ≠ []) (hne' : c'.policy ≠ []) (inD : Rule → Bool)
    (hview : c.policy.filter inD = c'.policy.filter inD)
    (hout : ∀ rule, inD rule = false → rule ∈ c.policy ∨ rule ∈ c'.policy →
      rule.length = c.ptokens.length ∧ matcherOf ex env rule = some false) :
    enforceCore c reqLen (matcherOf ex env) = enforceCore c' reqLen (matcherOf ex (withRm env rm')) := by
  have hc := matcherOf_rm_congr di d env rm' hreq hg hml ex hdo
  exact decisions_depend_on_view c c' reqLen _ _ eff hr hr' htok heft hne hne' inD hview
    (fun rule _ => (hc rule).symm) (fun rule hm hi => hout rule hi (Or.inl hm))
    (fun rule hm hi => by rw [hc rule, ← htok]; exact hout rule hi (Or.inr hm))

/-- **tenant isolation over histories** of rule calls that name no rule of tenant `d` (`TOp.Confined`) and of
role-link changes made for other tenants (`RmOp.Outside`) -/
theorem tenant_isolation_history (c : EvalCfg) (reqLen : Nat) (eff : EffExpr) (ex : Expr) (di : Nat) (d : String)
    (env : Env) (s : Store) (pt : String) (ops : List TOp) (rops : List (RmOp String)) (inD : Rule → Bool)
    (hdo : DomOnly di ex) (hreq : env.req[di]? = some (.atom (.str d)))
    (hops : ∀ op ∈ ops, op.Confined inD) (hrops : ∀ op ∈ rops, RmOp.Outside d op)
    (hr : C01.Ready { c with policy := s.getPolicy "p" pt } reqLen eff)
    (hr' : C01.Ready { c with policy := (ops.foldl TOp.apply s).getPolicy "p" pt } reqLen eff)
    (hne : s.getPolicy "p" pt ≠ []) (hne' : (ops.foldl TOp.apply s).getPolicy "p" pt ≠ [])
    (hout : ∀ rule, inD rule = false → rule ∈ s.getPolicy "p" pt ∨ rule ∈ (ops.foldl TOp.apply s).getPolicy "p" pt →
      rule.length = c.ptokens.length ∧ matcherOf ex env rule = some false) :
    enforceCore { c with policy := s.getPolicy "p" pt } reqLen (matcherOf ex env) =
    enforceCore { c with policy := (ops.foldl TOp.apply s).getPolicy "p" pt } reqLen
      (matcherOf ex (withRm env (env.rm.run rops))) := by
  have hgr := graph_history_outside env.rm rops d hrops
  exact tenant_isolation _ _ reqLen eff ex di d env (env.rm.run rops) hdo hreq hgr.1.symm hgr.2.symm hr hr' rfl rfl
    hne hne' inD (view_history inD ops s hops pt).symm hout

/-! ### Stated of `Enforcer.enforce` -/

/-- the rule `[]` given to `e.env` is a placeholder: `matcherOf` puts the rule in -/
theorem matchFn_eq_matcherOf (e : Enforcer) (call : String → List String → Option Atom) (tbl : String → Option Expr)
    (req : List Val) (ex : Expr) (h : e.defs.m.lookup "m" = some (some ex)) :
    e.matchFn "" call tbl req = matcherOf ex (e.env call tbl req []) := by
  funext rule
  simp [Enforcer.matchFn, matcherOf, h, Enforcer.env]

/-- **tenant isolation, stated of `enforce`**.  For `e'` take `e` after any history confined to other tenants
(`view_history`, `graph_history_outside`); both are switched on (`enabled = true` is part of `hr`, `hr'`). -/
theorem tenant_isolation_enforce (e e' : Enforcer) (call : String → List String → Option Atom)
    (tbl : String → Option Expr) (req : List Val) (eff : EffExpr) (ex : Expr) (di : Nat) (d : String)
    (hdefs : e'.defs = e.defs) (hgf : e'.gfuncs = e.gfuncs)
    (hm : e.defs.m.lookup "m" = some (some ex)) (hdo : DomOnly di ex)
    (hreq : req[di]? = some (.atom (.str d)))
    (hg : e.rm.graph? d = e'.rm.graph? d) (hml : e.rm.maxLevel = e'.rm.maxLevel)
    (hr : C01.Ready (e.evalCfg "" true) req.length eff) (hr' : C01.Ready (e'.evalCfg "" true) req.length eff)
    (htok : (e.evalCfg "" true).ptokens = (e'.evalCfg "" true).ptokens)
    (hne : (e.evalCfg "" true).policy ≠ []) (hne' : (e'.evalCfg "" true).policy ≠ []) (inD : Rule → Bool)
    (hview : (e.evalCfg "" true).policy.filter inD = (e'.evalCfg "" true).policy.filter inD)
    (hout : ∀ rule, inD rule = false → rule ∈ (e.evalCfg "" true).policy ∨ rule ∈ (e'.evalCfg "" true).policy →
      rule.length = (e.evalCfg "" true).ptokens.length ∧ e.matchFn "" call tbl req rule = some false) :
    e.enforce call tbl req = e'.enforce call tbl req := by
  unfold Enforcer.enforce
  rw [matchFn_eq_matcherOf e call tbl req ex hm, matchFn_eq_matcherOf e' call tbl req ex (hdefs ▸ hm)]
  have henv : e'.env call tbl req [] = withRm (e.env call tbl req []) e'.rm := by
    simp [Enforcer.env, withRm, hgf]
  rw [henv]
  apply tenant_isolation _ _ req.length eff ex di d (e.env call tbl req []) e'.rm hdo hreq hg hml hr hr' htok rfl
    hne hne' inD hview
  intro rule hi hmem
  exact matchFn_eq_matcherOf e call tbl req ex hm ▸ hout rule hi hmem

/-! ### Non-vacuity -/

-- premises and conclusion of `decisions_depend_on_view` on a two-tenant store
def cfgA : EvalCfg :=
  { enabled := true, sectionsOk := true, rtokens := 2, ptokens := ["p_sub", "p_dom"], effExpr := some .allowOverride,
    eftToken := "p_eft", compiles := true, policy := [["alice", "d1"], ["bob", "d2"]] }
def cfgB : EvalCfg := { cfgA with policy := [["carol", "d2"], ["alice", "d1"], ["dave", "d3"]] }
def mAlice : MatchFn := fun rule => some (rule[0]? = some "alice" && rule[1]? = some "d1")
example : enforceCore cfgA 2 mAlice = enforceCore cfgB 2 mAlice := by decide +kernel
example : cfgA.policy.filter (fun r => r[1]? = some "d1") = cfgB.policy.filter (fun r => r[1]? = some "d1") := by decide +kernel

/-- the matcher of `rbac_with_domains_model.conf`:
`g(r.sub, p.sub, r.dom) && r.dom == p.dom && r.obj == p.obj` -/
def domMatcher : Expr :=
  .and (.and (.g3 "g" (.r 0) (.p 0) (.r 1)) (.cmp .eq (.r 1) (.p 1))) (.cmp .eq (.r 2) (.p 2))

theorem domMatcher_domOnly : DomOnly 1 domMatcher :=
  .and (.and (.g3 "g" (.r 0) (.p 0)) (.cmp .eq (.r 1) (.p 1))) (.cmp .eq (.r 2) (.p 2))

def demoEnv : Env :=
  { req := [.atom (.str "alice"), .atom (.str "d1"), .atom (.str "data1")], rule := [],
    rm := (RoleMgr.new 10).addLink "alice" "admin" "d1", gfuncs := [("g", 3)],
    call := fun _ _ => none, tbl := fun _ => none }

def cfgD : EvalCfg :=
  { enabled := true, sectionsOk := true, rtokens := 3, ptokens := ["p_sub", "p_dom", "p_obj"],
    effExpr := some .allowOverride, eftToken := "p_eft", compiles := true,
    policy := [["admin", "d1", "data1"], ["bob", "d2", "data2"]] }
def cfgD' : EvalCfg := { cfgD with policy := [["carol", "d2", "data1"], ["admin", "d1", "data1"]] }

theorem demo_matcher_vals :
    matcherOf domMatcher demoEnv ["admin", "d1", "data1"] = some true ∧
    matcherOf domMatcher demoEnv ["bob", "d2", "data2"] = some false ∧
    matcherOf domMatcher demoEnv ["carol", "d2", "data1"] = some false := by
  have hg : ∀ (x : String) (rest : List String),
      (Expr.g3 "g" (.r 0) (.p 0) (.r 1)).eval { demoEnv with rule := x :: rest } 8 =
        some (.atom (.bool (demoEnv.rm.hasLink "alice" x "d1"))) := fun x rest =>
    g3_eval (r_eval _ 8 0) (p_eval _ 8 0) (r_eval _ 8 1) List.mem_cons_self
  refine ⟨?_, domain_guard_rejects _ _ _ 1 1 "d1" "d2" _ (hg _ _) rfl rfl (by simp),
    domain_guard_rejects _ _ _ 1 1 "d1" "d2" _ (hg _ _) rfl rfl (by simp)⟩
  -- on the first rule the link holds, and both comparisons are of equal strings
  have hdom := and_eval (hg "admin" ["d1", "data1"]) fun _ => cmp_eval (op := .eq) (r_eval _ 8 1) (p_eval _ 8 1)
  have h := and_eval hdom fun _ => cmp_eval (op := .eq) (r_eval _ 8 2) (p_eval _ 8 2)
  rw [show demoEnv.rm.hasLink "alice" "admin" "d1" = true by decide +kernel] at h
  exact evalBool_eq_some.mpr h

/-- the hypotheses of `tenant_isolation` can be met: another tenant's rules differ, and it gained a link -/
example :
    enforceCore cfgD 3 (matcherOf domMatcher demoEnv) =
      enforceCore cfgD' 3 (matcherOf domMatcher (withRm demoEnv (demoEnv.rm.addLink "bob" "admin" "d2"))) := by
  have hout : RmOp.Outside "d1" (.add "bob" "admin" "d2") := by simp [RmOp.Outside]
  apply tenant_isolation cfgD cfgD' 3 .allowOverride domMatcher 1 "d1" demoEnv _ domMatcher_domOnly rfl
    (graph_step_outside demoEnv.rm _ "d1" hout).symm (maxLevel_apply demoEnv.rm _).symm
    ⟨rfl, rfl, rfl, rfl, rfl⟩ ⟨rfl, rfl, rfl, rfl, rfl⟩ rfl rfl (List.cons_ne_nil _ _) (List.cons_ne_nil _ _)
    (fun r => decide (r[1]? = some "d1")) (by decide +kernel)
  intro rule hi hm
  simp only [cfgD, cfgD', List.mem_cons, List.not_mem_nil, or_false] at hm
  rcases hm with (rfl | rfl) | (rfl | rfl)
  · exact absurd hi (by decide +kernel)
  · exact ⟨rfl, demo_matcher_vals.2.1⟩
  · exact ⟨rfl, demo_matcher_vals.2.2⟩
  · exact absurd hi (by decide +kernel)

/-- the request above is granted (through the role): the equality there is not between two refusals -/
example : enforceCore cfgD 3 (matcherOf domMatcher demoEnv) = .ok true := by
  rw [C01.enforce_eq_reference cfgD 3 _ .allowOverride ⟨rfl, rfl, rfl, rfl, rfl⟩ (List.cons_ne_nil _ _)]
  simp only [cfgD, List.map, ruleOutcome, demo_matcher_vals.1, demo_matcher_vals.2.1]
  decide +kernel

end Casbin.C07
