import CasbinModel.Props.C08
/-!
# C19 — Role definitions are independent relations   (**false on the current tree**)

All role definitions share one role manager (enforcer.rs:64, macros.rs:50, default_model.rs:158-168), so the property
fails as soon as the same names occur under two definitions: the two witnesses below, known finding
`shared-role-manager`.  Proved is the partial statement: when the two definitions use disjoint name sets, links added
or deleted under one change no `has_link` answer about names of the other (hierarchies below the depth limit).
-/
namespace Casbin.C19
open Casbin

/-- the model reproduces the defect: a link stored under `g2` satisfies a `g` test -/
theorem shared_manager_witness :
    let g  : PolDef := { key := "g",  tokens := [], arity := 2, policy := [] }
    let g2 : PolDef := { key := "g2", tokens := [], arity := 2, policy := [["alice", "admin"]] }
    -- `g` holds no rule at all, yet g(alice, admin) is true after a rebuild
    (Casbin.buildRoleLinks (RoleMgr.new 10) [g, g2]).1.hasLink "alice" "admin" "DEFAULT" = true := by
  decide +kernel

/-- the same defect on removal: taking a link out under `g2` deletes the edge a `g` rule still needs -/
theorem shared_manager_delete_witness :
    let g  : PolDef := { key := "g",  tokens := [], arity := 2, policy := [["alice", "admin"]] }
    let g2 : PolDef := { key := "g2", tokens := [], arity := 2, policy := [] }
    let rm := (Casbin.buildRoleLinks (RoleMgr.new 10) [g, { g2 with policy := [["alice", "admin"]] }]).1
    (buildIncremental rm g2 false [["alice", "admin"]]).1.hasLink "alice" "admin" "DEFAULT" = false := by
  decide +kernel

/-- `N1`, `N2`: the names of the two definitions -/
structure Separated (N1 N2 : String → Prop) (g : Graph String) : Prop where
  disjoint : ∀ x, N1 x → N2 x → False
  closed : ∀ x y, (x, y) ∈ g.edges → (N1 x ∧ N1 y) ∨ (N2 x ∧ N2 y)

/-- a link operation of the second definition; a deletion that fails (a name the domain does not know) changes
nothing -/
inductive LOp where
  | add (x y : String)
  | del (x y : String)

/-- `rm.apply (.add x y d)` / `rm.apply (.del x y d)`, by `rfl` -/
def LOp.apply (d : String) (rm : RoleMgr String) : LOp → RoleMgr String
  | .add x y => rm.addLink x y d
  | .del x y => (rm.deleteLink x y d).getD rm

/-- `del x y` can only take out a link that starts at `x`: `N2 x` is all the step theorem needs of it -/
def LOp.In (N2 : String → Prop) : LOp → Prop
  | .add x y => N2 x ∧ N2 y
  | .del x _ => N2 x

/-- What the step theorems need of a state.  `wf` and `sep` of the next state would follow from `LOp.In`, `shallow`
would not (an added link can lengthen a chain, a deleted one can have been a shortcut): hence the theorems assume
`Good` of every state. -/
structure Good (N1 N2 : String → Prop) (d : String) (rm : RoleMgr String) : Prop where
  wf : rm.WF
  sep : Separated N1 N2 (rm.graph d)
  shallow : C05.Shallow (rm.graph d) rm.maxLevel

theorem Separated.step {N1 N2 : String → Prop} {g : Graph String} (hs : Separated N1 N2 g) {x y : String}
    (hx : N1 x) (he : (x, y) ∈ g.edges) : N1 y :=
  (hs.closed x y he).elim And.right fun h => (hs.disjoint x hx h.1).elim

/-- a path from a name of the first definition never leaves these names, so two `Good` managers whose graphs agree on
the links that leave `N1` names answer `has_link` alike for them -/
theorem hasLink_agree {N1 N2 : String → Prop} {d : String} {rm rm' : RoleMgr String} (h : Good N1 N2 d rm)
    (h' : Good N1 N2 d rm')
    (hag : ∀ x y, N1 x → ((x, y) ∈ (rm'.graph d).edges ↔ (x, y) ∈ (rm.graph d).edges)) (a b : String) (ha : N1 a) :
    rm'.hasLink a b d = rm.hasLink a b d := by
  rw [Bool.eq_iff_iff, C03.hasLink_iff_reach rm' h'.wf d h'.shallow, C03.hasLink_iff_reach rm h.wf d h.shallow]
  refine or_congr_right ⟨fun ⟨n, hp⟩ => ⟨n, ?_⟩, fun ⟨n, hp⟩ => ⟨n, ?_⟩⟩
  · exact hp.mono_on (fun x y hx he => ⟨(hag x y hx).mp he, h'.sep.step hx he⟩) ha
  · exact hp.mono_on (fun x y hx he => ⟨(hag x y hx).mpr he, h.sep.step hx he⟩) ha

/-- **partial independence**: a link added or deleted between names of the second definition changes no `has_link`
answer for a name of the first -/
theorem step_other_definition (N1 N2 : String → Prop) (d : String) (rm : RoleMgr String) (op : LOp)
    (h : Good N1 N2 d rm) (h' : Good N1 N2 d (op.apply d rm)) (hin : op.In N2) (a b : String) (ha : N1 a) :
    (op.apply d rm).hasLink a b d = rm.hasLink a b d := by
  refine hasLink_agree h h' (fun p q hp => ?_) a b ha
  cases op with
  | add x y =>
    refine (addLink_edges h.wf x y d d p q).trans (or_iff_left ?_)
    rintro ⟨_, _, h3, _⟩
    exact h.sep.disjoint p hp (h3 ▸ hin.1)
  | del x y =>
    -- failed or not, the deletion is the manager's operation `.del x y d`
    show (p, q) ∈ ((rm.apply (.del x y d)).graph d).edges ↔ _
    rw [apply_graph]
    refine (Graph.step_edges (h.wf d) d (.del x y d) p q).trans (and_iff_left ?_)
    rintro ⟨_, h3, _⟩
    exact h.sep.disjoint p hp (h3 ▸ hin)

/-- **independence over histories, for disjoint name sets**; `hgood`: the name sets stay apart and the hierarchy below
the limit in every state passed through -/
theorem history_other_definition (N1 N2 : String → Prop) (d : String) (ops : List LOp) (rm : RoleMgr String)
    (h0 : Good N1 N2 d rm) (hin : ∀ op ∈ ops, op.In N2)
    (hgood : ∀ (pre : List LOp) (op : LOp) (post : List LOp), ops = pre ++ op :: post →
      Good N1 N2 d ((pre ++ [op]).foldl (LOp.apply d) rm))
    (a b : String) (ha : N1 a) :
    (ops.foldl (LOp.apply d) rm).hasLink a b d = rm.hasLink a b d := by
  induction ops generalizing rm with
  | nil => rfl
  | cons op ops ih =>
    have h1 : Good N1 N2 d (op.apply d rm) := hgood [] op ops rfl
    exact (ih (op.apply d rm) h1 (fun o ho => hin o (List.mem_cons_of_mem _ ho))
      fun pre op' post heq => hgood (op :: pre) op' post (congrArg (op :: ·) heq)).trans
      (step_other_definition N1 N2 d rm op h0 h1 (hin op List.mem_cons_self) a b ha)

/-! non-vacuity of `history_other_definition`: a one-link history on an empty manager -/
def N1demo (x : String) : Prop := x = "alice" ∨ x = "admin"
def N2demo (x : String) : Prop := x = "data1" ∨ x = "group"

theorem good_of_edges (rm : RoleMgr String) (hw : rm.WF) (hm : 2 ≤ rm.maxLevel)
    (he : ∀ x y, (x, y) ∈ (rm.graph "DEFAULT").edges → x = "data1" ∧ y = "group") :
    Good N1demo N2demo "DEFAULT" rm := by
  refine ⟨hw, ⟨?_, ?_⟩, ?_⟩
  · intro x h1 h2
    rcases h1 with h1 | h1 <;> rcases h2 with h2 | h2 <;> simp [h1] at h2
  · intro x y hxy
    obtain ⟨rfl, rfl⟩ := he x y hxy
    exact Or.inr ⟨Or.inl rfl, Or.inr rfl⟩
  · exact C08.shallow_single _ "data1" "group" (by decide) _ hm he

example (a b : String) (ha : N1demo a) :
    ([LOp.add "data1" "group"].foldl (LOp.apply "DEFAULT") (RoleMgr.new 10)).hasLink a b "DEFAULT" =
      (RoleMgr.new 10 : RoleMgr String).hasLink a b "DEFAULT" := by
  have hnew : ∀ x y : String, (x, y) ∉ ((RoleMgr.new 10 : RoleMgr String).graph "DEFAULT").edges := fun x y h =>
    Bool.false_ne_true ((refines_new 10 "DEFAULT" x y).mp h)
  apply history_other_definition N1demo N2demo "DEFAULT" _ _ _ _ _ a b ha
  · exact good_of_edges _ (WF_new 10) (by decide) fun x y h => (hnew x y h).elim
  · intro op hop
    cases List.mem_singleton.mp hop
    exact ⟨Or.inl rfl, Or.inr rfl⟩
  · intro pre op post heq
    rcases pre with _ | ⟨p1, pre⟩
    · cases (List.cons.inj heq).1
      simp only [List.nil_append, List.foldl_cons, List.foldl_nil, LOp.apply]
      refine good_of_edges _ (addLink_WF (WF_new 10) _ _ _) (by rw [addLink_maxLevel]; decide) fun x y h => ?_
      rcases (addLink_edges (WF_new 10) ..).mp h with h | ⟨_, _, rfl, rfl⟩
      · exact (hnew x y h).elim
      · exact ⟨rfl, rfl⟩
    · cases pre <;> cases (List.cons.inj heq).2

end Casbin.C19
