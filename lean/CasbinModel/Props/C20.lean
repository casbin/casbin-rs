import CasbinModel.Lemmas.Conc
/-! # C20 — Concurrent enforcement is deterministic and deadlock-free   (*partial*)

Lock protocol (`Conc.lean`): threads running lock programs over the outer lock (0) and the role-manager lock (1), for
every scheduler and every reader-refusal policy between "never" and parking_lot's "whenever a writer is queued".
That the crate's entry points have the shapes `callProg` / `handleProg` is not assumed: the syntactic pass of the
harness checks it on every run (`lockscan.rs`; `c20.rs` hands the lock programs it finds to the model as `conc.disc`
lines).

Data level: calls on a shared (cached) enforcer at the granularity lookup / compute-and-insert, interleaved arbitrarily
with evictions, exclusive writes and role-manager-handle operations.  Hypotheses on the parameters: `hInv` (a handle
operation changes no decision), `hComm` (it commutes with every write), `hClr` (a write that does not clear the cache
changes no decision: what C11 proves of the management calls).

Not modelled: the interleaving of a handle *write that changes decisions* with the individual `g` calls of one
evaluation; memory-model effects inside rhai, mini-moka and parking_lot (exercised by the stress run only). -/
namespace Casbin.C20
open Casbin.Conc

theorem quiescent_allDone {pol : Policy} (hpol : PolOk pol) {nL n : Nat} {s0 s : State} (hd : Disc nL s0)
    (r : ReachN pol n s0 s) (hno : ∀ t, enabled pol s t = false) : allDone s = true := by
  cases hnd : allDone s with
  | true => rfl
  | false =>
    obtain ⟨t, ht⟩ := exists_enabled pol hpol nL s (disc_reach hd r) hnd
    rw [hno t] at ht; cases ht

/-- **no deadlock**; `disc`: the program takes locks in strictly increasing order (hence never re-entrantly) -/
theorem no_deadlock (pol : Policy) (hpol : PolOk pol) (nL : Nat) (progs : List (List Act))
    (hd : ∀ p ∈ progs, disc nL [] p = true) (n : Nat) (s : State) (r : ReachN pol n (initState progs) s) :
    stuck pol s = false := by
  cases hs : stuck pol s with
  | false => rfl
  | true =>
    obtain ⟨hnd, hno⟩ := of_stuck hs
    rw [quiescent_allDone hpol (disc_init hd) r hno] at hnd; cases hnd

/-- **no call blocks forever**, under a fair scheduler (the theorem itself speaks of none): a run takes at most `work`
steps and can stop only when every thread has finished -/
theorem runs_terminate (pol : Policy) (hpol : PolOk pol) (nL : Nat) (progs : List (List Act))
    (hd : ∀ p ∈ progs, disc nL [] p = true) (n : Nat) (s : State) (r : ReachN pol n (initState progs) s) :
    n ≤ work (initState progs) ∧ ((∀ t, enabled pol s t = false) → allDone s = true) :=
  ⟨Nat.le.intro (reach_bounded r), quiescent_allDone hpol (disc_init hd) r⟩

/-- **writes are exclusive**: management calls made under the outer write lock never overlap a call in flight -/
theorem writer_exclusive (pol : Policy) (progs : List (List Act)) (n : Nat) (s : State)
    (r : ReachN pol n (initState progs) s) : Excl s := excl_reach (excl_init progs) r

/-- a statement-scoped guard: acquire, use, release -/
def guarded (m : Mode) (l : Nat) : List Act := [.acq m l, .tau, .rel m l]
def guards (m : Mode) (l : Nat) : Nat → List Act
  | 0 => []
  | k + 1 => guarded m l ++ guards m l k
/-- a call under the caller's outer lock in mode `mo` taking `k` statement-scoped role-manager guards in mode `mi`
(enforce: `R`,`R`, one per `g` call; an RBAC helper: `R`,`R`, one per statement; a management call: `W`,`W`, one per
link) -/
def callProg (mo mi : Mode) (k : Nat) : List Act := .acq mo 0 :: (guards mi 1 k ++ [.rel mo 0])
/-- a thread using the role-manager handle directly, `k` times -/
def handleProg (m : Mode) (k : Nat) : List Act := guards m 1 k

theorem disc_guards (nL : Nat) (held : List (Nat × Mode)) (m : Mode) (l : Nat) (k : Nat) (rest : List Act)
    (hl : l < nL) (hh : ∀ x ∈ held, x.1 < l) (hr : disc nL held rest = true) :
    disc nL held (guards m l k ++ rest) = true := by
  induction k with
  | zero => exact hr
  | succ k ih =>
    simp only [guards, guarded, List.cons_append, List.nil_append, disc, Bool.and_eq_true, decide_eq_true_eq,
      List.all_eq_true, List.contains_cons, BEq.rfl, Bool.true_or, List.erase_cons_head]
    exact ⟨⟨hl, hh⟩, trivial, ih⟩

theorem callProg_disc (mo mi : Mode) (k : Nat) : disc 2 [] (callProg mo mi k) = true := by
  -- the outer guard is taken with nothing held, and is the one guard held at the end
  show disc 2 [(0, mo)] (guards mi 1 k ++ [.rel mo 0]) = true
  exact disc_guards 2 _ mi 1 k _ (by decide) (by simp) (by cases mo <;> rfl)

theorem handleProg_disc (m : Mode) (k : Nat) : disc 2 [] (handleProg m k) = true := by
  rw [handleProg, ← List.append_nil (guards m 1 k)]
  exact disc_guards 2 [] m 1 k [] (by decide) nofun rfl

/-- **the crate's call shapes are disciplined**, whatever the number of guards taken -/
theorem crate_programs_disciplined (mo mi m : Mode) (k : Nat) :
    disc 2 [] (callProg mo mi k) = true ∧ disc 2 [] (handleProg m k) = true :=
  ⟨callProg_disc mo mi k, handleProg_disc m k⟩

theorem crate_threads_no_deadlock (pol : Policy) (hpol : PolOk pol) (progs : List (List Act))
    (hshape : ∀ p ∈ progs, (∃ mo mi k, p = callProg mo mi k) ∨ (∃ m k, p = handleProg m k))
    (n : Nat) (s : State) (r : ReachN pol n (initState progs) s) : stuck pol s = false := by
  apply no_deadlock pol hpol 2 progs _ n s r
  intro p hp
  rcases hshape p hp with ⟨mo, mi, k, rfl⟩ | ⟨m, k, rfl⟩
  · exact callProg_disc mo mi k
  · exact handleProg_disc m k

/-- the forbidden pattern: a guard held across a call that locks again -/
def reentrantProg : List Act := [.acq .R 1, .acq .R 1, .rel .R 1, .rel .R 1]

/-- **re-entrant read + queued writer = deadlock** under the fair policy (the writer arrives, `tau`, after the first
read); under a reader-preferring lock the same programs run to completion (why sequential tests cannot see it); the
discipline rejects the program.  The first two conjuncts are by evaluation of the explorer (`explore_sound` proves
soundness only): its `none` means an exhaustive search only if the count beside it is below the out-of-fuel marker of
`exploreGo`; for the eager run it is 19, which the statement does not record. -/
theorem reentrant_read_deadlocks :
    (explore fairPol 100 [initState [reentrantProg, .tau :: handleProg .W 1]] 0).1.isSome = true ∧
    (explore eagerPol 100 [initState [reentrantProg, .tau :: handleProg .W 1]] 0).1.isSome = false ∧
    disc 2 [] reentrantProg = false := by decide +kernel

/-- with the crate's shapes the exploration finds nothing, whatever the fuel: what it returns is a reachable stuck state -/
example : (explore fairPol 100000 [initState [callProg .R .R 2, callProg .R .R 1, handleProg .W 1, callProg .W .W 1]] 0).1 = none := by
  refine Option.eq_none_iff_forall_ne_some.mpr fun s h => ?_
  obtain ⟨⟨s0, h0, k, r⟩, hs⟩ := explore_sound h
  cases List.mem_singleton.mp h0
  rw [no_deadlock fairPol polOk_fair 2 _ (by decide) k s r] at hs
  cases hs

section
variable {S Req Dec W H : Type}

/-- the invariant of a run from `st0`: the state is the serial state after the writes so far, up to handle operations;
the cache agrees with it; each logged decision is the serial one at its stamp; the stamps are in order -/
structure Good (f : S → Req → Dec) (applyW : W → S → S) (applyH : H → S → S) (st0 : S) (y : Sys S Req Dec W) :
    Prop where
  st_eq : ∃ hs : List H, y.st = hs.foldl (fun s h => applyH h s) (y.ws.foldl (fun s w => applyW w s) st0)
  cache_sound : ∀ e ∈ y.cache, e.2 = f y.st e.1
  log_ok : ∀ e ∈ y.log, e.2.2 ≤ y.ws.length ∧ e.2.1 = f (serial applyW st0 y.ws e.2.2) e.1
  log_mono : y.log.Pairwise (fun a b => b.2.2 ≤ a.2.2)

variable {f : S → Req → Dec} {applyW : W → S → S} {applyH : H → S → S} {st0 : S} {y : Sys S Req Dec W}

theorem foldl_handles_invisible (hInv : ∀ h s, f (applyH h s) = f s) (hs : List H) (s : S) :
    f (hs.foldl (fun s h => applyH h s) s) = f s := by
  induction hs generalizing s with
  | nil => rfl
  | cons h hs ih => simp only [List.foldl_cons]; rw [ih, hInv]

theorem write_commutes (hComm : ∀ h w s, applyH h (applyW w s) = applyW w (applyH h s)) (w : W) (hs : List H) (s : S) :
    applyW w (hs.foldl (fun s h => applyH h s) s) = hs.foldl (fun s h => applyH h s) (applyW w s) := by
  induction hs generalizing s with
  | nil => rfl
  | cons h hs ih => simp only [List.foldl_cons]; rw [ih, hComm]

theorem serial_append (st0 : S) (ws : List W) (w : W) (i : Nat) (h : i ≤ ws.length) :
    serial applyW st0 (ws ++ [w]) i = serial applyW st0 ws i := by
  unfold serial; rw [List.take_append_of_le_length h]

theorem lookup_mem [DecidableEq Req] {c : List (Req × Dec)} {k : Req} {v : Dec} (h : lookup c k = some v) :
    (k, v) ∈ c := by
  obtain ⟨⟨k', v'⟩, hf, rfl⟩ := Option.map_eq_some_iff.mp h
  obtain rfl : k' = k := eq_of_beq (List.find?_some hf :)
  exact List.mem_of_find?_eq_some hf

theorem Good.shrink (g : Good f applyW applyH st0 y) {c : List (Req × Dec)} (p : List (Nat × Req))
    (hc : ∀ e ∈ c, e ∈ y.cache) : Good f applyW applyH st0 { y with cache := c, pending := p } :=
  ⟨g.st_eq, fun e he => g.cache_sound e (hc e he), g.log_ok, g.log_mono⟩

/-- a call may return the decision of the current state, stamped with the writes so far, and cache it -/
theorem Good.push (g : Good f applyW applyH st0 y) (hInv : ∀ h s, f (applyH h s) = f s) (k : Req)
    {c : List (Req × Dec)} (p : List (Nat × Req)) (hc : ∀ e ∈ c, e = (k, f y.st k) ∨ e ∈ y.cache) :
    Good f applyW applyH st0
      { y with cache := c, pending := p, log := (k, f y.st k, y.ws.length) :: y.log } := by
  refine ⟨g.st_eq, fun e he => ?_, fun e he => ?_, List.Pairwise.cons (fun e he => (g.log_ok e he).1) g.log_mono⟩
  · rcases hc e he with rfl | h
    · rfl
    · exact g.cache_sound e h
  · rcases List.mem_cons.mp he with rfl | h
    · obtain ⟨hs, he⟩ := g.st_eq
      exact ⟨Nat.le_refl _, by rw [he, foldl_handles_invisible hInv]; simp [serial]⟩
    · exact g.log_ok e h

/-- a write moves the serial state on; the cache survives it only if the write says it changes no decision -/
theorem Good.write (g : Good f applyW applyH st0 y)
    (hComm : ∀ h w s, applyH h (applyW w s) = applyW w (applyH h s)) (w : W) {c : List (Req × Dec)}
    (hc : ∀ e ∈ c, e ∈ y.cache ∧ f (applyW w y.st) = f y.st) :
    Good f applyW applyH st0 { y with st := applyW w y.st, cache := c, ws := y.ws ++ [w] } := by
  refine ⟨?_, fun e he => ?_, fun e he => ?_, g.log_mono⟩
  · obtain ⟨hs, he⟩ := g.st_eq
    exact ⟨hs, by rw [List.foldl_append, he, write_commutes hComm]; rfl⟩
  · obtain ⟨h1, h2⟩ := hc e he
    exact (g.cache_sound e h1).trans (congrFun h2 e.1).symm
  · obtain ⟨h1, h2⟩ := g.log_ok e he
    exact ⟨Nat.le_trans h1 (by simp), by rw [serial_append st0 y.ws w e.2.2 h1]; exact h2⟩

theorem Good.handle (g : Good f applyW applyH st0 y) (hInv : ∀ h s, f (applyH h s) = f s) (h : H) :
    Good f applyW applyH st0 { y with st := applyH h y.st } := by
  refine ⟨?_, fun e he => (g.cache_sound e he).trans (congrFun (hInv h y.st) e.1).symm, g.log_ok, g.log_mono⟩
  obtain ⟨hs, he⟩ := g.st_eq
  exact ⟨hs ++ [h], by rw [List.foldl_append, ← he]; rfl⟩

theorem good_step [DecidableEq Req] (clears : W → Bool) (hInv : ∀ h s, f (applyH h s) = f s)
    (hComm : ∀ h w s, applyH h (applyW w s) = applyW w (applyH h s))
    (hClr : ∀ w s, clears w = false → f (applyW w s) = f s)
    (g : Good f applyW applyH st0 y) (ev : Ev Req W H) :
    Good f applyW applyH st0 (Sys.step f applyW clears applyH y ev) := by
  -- the branches of `Sys.step` as it is written: begin (thread busy, hit, miss), finish (nothing pending, pending),
  -- evict, write (admitted, refused), handle
  fun_cases Sys.step f applyW clears applyH y ev with
  | case1 | case4 | case8 => exact g
  | case2 t k _ v hv =>
    obtain rfl : v = f y.st k := g.cache_sound _ (lookup_mem hv)
    exact g.push hInv k _ fun e he => .inr he
  | case3 => exact g.shrink _ fun e he => he
  | case5 => exact g.push hInv _ _ fun e he => (List.mem_cons.mp he).imp_right fun h => (List.mem_filter.mp h).1
  | case6 => exact g.shrink _ fun e he => (List.mem_filter.mp he).1
  | case7 w =>
    refine g.write hComm w fun e he => ?_
    cases hc : clears w with
    | true => rw [hc] at he; cases he
    | false => rw [hc] at he; exact ⟨he, hClr w y.st hc⟩
  | case9 h => exact g.handle hInv h

theorem good_run [DecidableEq Req] (clears : W → Bool) (hInv : ∀ h s, f (applyH h s) = f s)
    (hComm : ∀ h w s, applyH h (applyW w s) = applyW w (applyH h s))
    (hClr : ∀ w s, clears w = false → f (applyW w s) = f s)
    (g : Good f applyW applyH st0 y) (evs : List (Ev Req W H)) :
    Good f applyW applyH st0 (Sys.run f applyW clears applyH y evs) := by
  unfold Sys.run
  induction evs generalizing y with
  | nil => exact g
  | cons ev evs ih => exact ih (good_step clears hInv hComm hClr g ev)

theorem good_init (st0 : S) : Good f applyW applyH st0 (Sys.init st0 : Sys S Req Dec W) :=
  ⟨⟨[], rfl⟩, nofun, nofun, .nil⟩
end

section
variable {S Req Dec W H : Type} [DecidableEq Req]
variable (f : S → Req → Dec) (applyW : W → S → S) (clears : W → Bool) (applyH : H → S → S)

/-- **every decision corresponds to a state in the serial order of the writes**: a logged `(k, v, i)` carries the
number `i` of writes completed when the call returned -/
theorem decisions_serial (hInv : ∀ h s, f (applyH h s) = f s)
    (hComm : ∀ h w s, applyH h (applyW w s) = applyW w (applyH h s))
    (hClr : ∀ w s, clears w = false → f (applyW w s) = f s)
    (st0 : S) (evs : List (Ev Req W H)) :
    let y := Sys.run f applyW clears applyH (Sys.init st0) evs
    ∀ e ∈ y.log, e.2.2 ≤ y.ws.length ∧ e.2.1 = f (serial applyW st0 y.ws e.2.2) e.1 :=
  (good_run clears hInv hComm hClr (good_init st0) evs).log_ok

/-- the serial states observed follow the order of the writes (the log is newest-first) -/
theorem log_monotone (hInv : ∀ h s, f (applyH h s) = f s)
    (hComm : ∀ h w s, applyH h (applyW w s) = applyW w (applyH h s))
    (hClr : ∀ w s, clears w = false → f (applyW w s) = f s)
    (st0 : S) (evs : List (Ev Req W H)) :
    (Sys.run f applyW clears applyH (Sys.init st0) evs).log.Pairwise (fun a b => b.2.2 ≤ a.2.2) :=
  (good_run clears hInv hComm hClr (good_init st0) evs).log_mono

def isWrite : Ev Req W H → Bool
  | .write _ => true
  | _ => false

theorem step_ws (y : Sys S Req Dec W) (ev : Ev Req W H) (h : isWrite ev = false) :
    (Sys.step f applyW clears applyH y ev).ws = y.ws := by
  fun_cases Sys.step f applyW clears applyH y ev with
  | case7 => cases h  -- the write that is admitted
  | _ => rfl

theorem ws_nil_of_no_write (y : Sys S Req Dec W) (evs : List (Ev Req W H)) (h : ∀ ev ∈ evs, isWrite ev = false)
    (hy : y.ws = []) : (Sys.run f applyW clears applyH y evs).ws = [] := by
  unfold Sys.run
  induction evs generalizing y with
  | nil => exact hy
  | cons ev evs ih =>
    exact ih _ (fun e he => h e (List.mem_cons_of_mem _ he))
      ((step_ws f applyW clears applyH y ev (h ev List.mem_cons_self)).trans hy)

/-- **readers only**: every thread obtains the single-thread decision, whatever the interleaving, evictions and handle
use.  `hComm` / `hClr` (facts about writes) are needed only because the proof goes through `good_run`; with
`clears' := fun _ => true`, `hClr` is vacuous. -/
theorem readers_only_deterministic (hInv : ∀ h s, f (applyH h s) = f s) (st0 : S) (evs : List (Ev Req W H))
    (hnw : ∀ ev ∈ evs, isWrite ev = false) (clears' : W → Bool)
    (hComm : ∀ h w s, applyH h (applyW w s) = applyW w (applyH h s))
    (hClr : ∀ w s, clears' w = false → f (applyW w s) = f s) :
    ∀ e ∈ (Sys.run f applyW clears' applyH (Sys.init st0) evs).log, e.2.1 = f st0 e.1 := by
  intro e he
  have h := (decisions_serial f applyW clears' applyH hInv hComm hClr st0 evs e he).2
  rw [ws_nil_of_no_write f applyW clears' applyH (Sys.init st0) evs hnw rfl] at h
  simpa [serial] using h
end

/-- a concrete schedule: two overlapping calls, an eviction, two writes.  The first write arrives while call 1 is in
flight and is refused; only the second is admitted, hence the one stamp `1`. -/
example :
    (Sys.run (fun (s : Nat) (k : Nat) => decide (k < s)) (fun (w : Nat) _ => w) (fun _ => true) (fun (_ : Unit) s => s)
      (Sys.init 5) [.begin 0 3, .begin 1 3, .finish 0, .write 2, .finish 1, .evict 3, .write 2, .begin 0 3, .finish 0]).log
      = [(3, false, 1), (3, true, 0), (3, true, 0)] := by decide +kernel

end Casbin.C20
