import CasbinModel.Props.C01
/-! # C17 — Context-qualified enforcement equals plain enforcement

`enforce_with_context` and `enforce` run the same evaluation (`enforceCore`) on two section choices.

Two facts about *strings* are hypotheses, checked by the correspondence run and not by the kernel (string literals do
not reduce in the kernel): the effect expression of the suffixed section normalises to the same `EffExpr` (`heff`), and
the renamed matcher text denotes the same matcher function (`hm`). -/
namespace Casbin.C17
open Casbin

theorem idxOf?_map_inj {α β : Type} [BEq α] [LawfulBEq α] [BEq β] [LawfulBEq β]
    (f : α → β) (hf : ∀ x y, f x = f y → x = y) (l : List α) (a : α) :
    (l.map f).idxOf? (f a) = l.idxOf? a := by
  unfold List.idxOf?
  rw [List.findIdx?_map]
  congr 1
  funext x
  exact Bool.eq_iff_iff.mpr ⟨fun h => beq_iff_eq.mpr (hf _ _ (eq_of_beq h)), fun h => eq_of_beq h ▸ BEq.rfl⟩

/-- of the policy tokens the evaluation sees only their *number* and the *position* of the effect column -/
theorem enforceCore_congr (c c' : EvalCfg) (n : Nat) (m m' : MatchFn)
    (h1 : c.enabled = c'.enabled) (h2 : c.sectionsOk = c'.sectionsOk) (h3 : c.rtokens = c'.rtokens)
    (heff : c.effExpr = c'.effExpr) (h5 : c.compiles = c'.compiles) (h6 : c.policy = c'.policy)
    (h7 : c.ptokens.length = c'.ptokens.length)
    (h8 : c.ptokens.idxOf? c.eftToken = c'.ptokens.idxOf? c'.eftToken)
    (hm : ∀ rule, m rule = m' rule) : enforceCore c n m = enforceCore c' n m' := by
  cases funext hm
  unfold enforceCore
  -- `ptokens.map fun _ => ""` (empty-policy branch) depends on the length only (`map_const'`)
  rw [h1, h2, h3, heff, h5, h6, h8, List.map_const', List.map_const', h7]

/-- **C17**: suffixed sections that are renamed copies decide like the unsuffixed ones, effect columns, arity errors,
malformed rules and the empty-policy case included. -/
theorem ctx_eq_plain (plain ctx : EvalCfg) (ren : String → String) (hinj : ∀ x y, ren x = ren y → x = y)
    (n : Nat) (m m' : MatchFn)
    (h1 : ctx.enabled = plain.enabled) (h2 : ctx.sectionsOk = plain.sectionsOk)
    (h3 : ctx.rtokens = plain.rtokens) (heff : ctx.effExpr = plain.effExpr)
    (h5 : ctx.compiles = plain.compiles) (h6 : ctx.policy = plain.policy)
    (htok : ctx.ptokens = plain.ptokens.map ren) (heft : ctx.eftToken = ren plain.eftToken)
    (hm : ∀ rule, m' rule = m rule) :
    enforceCore ctx n m' = enforceCore plain n m := by
  apply enforceCore_congr ctx plain n m' m h1 h2 h3 heff h5 h6
  · rw [htok]; simp
  · rw [htok, heft]; exact idxOf?_map_inj ren hinj _ _
  · exact hm

/-- the model's two entry points are this evaluation on the two section choices -/
theorem enforcer_defs (e : Enforcer) (k : String) (call : String → List String → Option Atom)
    (tbl : String → Option Expr) (req : List Val) :
    e.enforceCtx k call tbl req = enforceCore (e.evalCfg k false) req.length (e.matchFn k call tbl req) ∧
    e.enforce call tbl req = enforceCore (e.evalCfg "" true) req.length (e.matchFn "" call tbl req) :=
  ⟨rfl, C01.enforcer_enforce_def e call tbl req⟩

/-! ### Non-vacuity: a deny rule under a renamed policy type is honoured (regression for F10) -/
def plainCfg : EvalCfg :=
  { enabled := true, sectionsOk := true, rtokens := 2, ptokens := ["p_sub", "p_obj", "p_eft"],
    effExpr := some .denyOverride, eftToken := "p_eft", compiles := true,
    policy := [["alice", "d1", "deny"]] }
def ctxCfg : EvalCfg := { plainCfg with ptokens := ["p2_sub", "p2_obj", "p2_eft"], eftToken := "p2_eft" }
example : enforceCore ctxCfg 2 (C01.demoMatch "alice" "d1") = .ok false ∧
          enforceCore plainCfg 2 (C01.demoMatch "alice" "d1") = .ok false := by decide +kernel
/-- with the pre-fix lookup (`p_eft` among `p2_…` tokens) the deny rule counted as allow -/
example : enforceCore { ctxCfg with eftToken := "p_eft" } 2 (C01.demoMatch "alice" "d1") = .ok true := by decide +kernel

end Casbin.C17
