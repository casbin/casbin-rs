import CasbinModel.Lemmas.Load
import CasbinModel.Props.C04
import CasbinModel.Lemmas.Mgmt
/-!
# C12 — Filtered loading loads exactly the matching subset

For every adapter content (`records`), filter and existing policy type, `load_filtered_policy` loads exactly the rules of
a full load that pass the filter, unchanged and in order (`loadFiltered_eq_filter`; for contents without duplicate
rules, what every bundled adapter's `save_policy` produces).  That is stated of `loadRecords` on the cleared store: what
`AdapterSt.load` / `AdapterSt.loadFiltered` run when no fault is pending (`adapter_loadFiltered`; Enforcer.lean:229-245).
`is_filtered` is true exactly when some record was left out; a filtered enforcer's `save_policy` panics before the adapter
is touched.
-/
namespace Casbin.C12
open Casbin

theorem filterKeeps_eq (fp fg : List String) (sec : String) (rule : Rule) :
    filterKeeps fp fg sec rule = filterMatch 0 (if sec = "p" then fp else if sec = "g" then fg else []) rule := by
  unfold filterKeeps filterMatch
  simp only [Nat.zero_add]

/-- the filter test as the property states it -/
theorem filterKeeps_iff (fp fg : List String) (sec : String) (rule : Rule) :
    filterKeeps fp fg sec rule = true ↔
      ∀ (i : Nat) (v : String), (if sec = "p" then fp else if sec = "g" then fg else [])[i]? = some v → v ≠ "" → rule[i]? = some v := by
  rw [filterKeeps_eq, C04.filterMatch_iff]
  simp only [Nat.zero_add]

/-- **Filtered load = filter ∘ full load**, per policy type, contents and order. -/
theorem loadFiltered_eq_filter (recs : List (String × String × Rule)) (s : Store) (fp fg : List String)
    (sec pt : String) (hex : (s.find sec pt).isSome = true) (hnd : (recsFor sec pt recs).Nodup) :
    (loadRecords s.clear (recs.filter (fun r => filterKeeps fp fg r.1 r.2.2))).getPolicy sec pt =
      ((loadRecords s.clear recs).getPolicy sec pt).filter (filterKeeps fp fg sec) := by
  rw [getPolicy_loadRecords_clear hex hnd,
    getPolicy_loadRecords_clear hex (by rw [recsFor_filter]; exact hnd.filter _), recsFor_filter]

theorem adapter_loadFiltered (a : AdapterSt) (s : Store) (fp fg : List String) (hp : a.plan = []) :
    a.loadFiltered s fp fg =
      ({ a with filtered := a.records.any (fun r => !filterKeeps fp fg r.1 r.2.2) },
       loadRecords s (a.records.filter (fun r => filterKeeps fp fg r.1 r.2.2)), some ()) := by
  unfold AdapterSt.loadFiltered; rw [AdapterSt.nextFault_pass hp]

theorem isFiltered_iff (a : AdapterSt) (s : Store) (fp fg : List String) (hp : a.plan = []) :
    (a.loadFiltered s fp fg).1.filtered = true ↔ ∃ r ∈ a.records, filterKeeps fp fg r.1 r.2.2 = false := by
  rw [adapter_loadFiltered a s fp fg hp, List.any_eq_true]
  simp only [Bool.not_eq_true']

theorem empty_filter_keeps_all (sec : String) (rule : Rule) : filterKeeps [] [] sec rule = true := by
  unfold filterKeeps; simp only [ite_self]; rfl

/-- **A filtered enforcer can never save**: `save_policy` panics and nothing changes. -/
theorem filtered_cannot_save (e : Enforcer) (h : e.adapter.filtered = true) :
    e.savePolicy.2 = .panic ∧ e.savePolicy.1.adapter = e.adapter ∧ e.savePolicy.1.store = e.store := by
  simp [Enforcer.savePolicy, h]

theorem full_load_unfiltered (a : AdapterSt) (s : Store) (hp : a.plan = []) : (a.load s).1.filtered = false := by
  unfold AdapterSt.load; rw [AdapterSt.nextFault_pass hp]

/-- a missing field is a mismatch, not a wildcard -/
theorem short_rule_left_out (fp fg : List String) (rule : Rule) (i : Nat) (v : String) (hv : fp[i]? = some v) (hne : v ≠ "")
    (hshort : rule.length ≤ i) : filterKeeps fp fg "p" rule = false := by
  rw [← Bool.not_eq_true, filterKeeps_iff]
  intro h
  have := h i v (by simpa using hv) hne
  rw [List.getElem?_eq_none hshort] at this
  cases this

/-- the filter of a section applies to every policy type filed under it (`p2`, `p3` lines are filtered by `Filter.p` like
`p` lines): the record's section alone picks the filter -/
theorem filter_by_section (recs : List (String × String × Rule)) (fp fg : List String) (pt : String) (rule : Rule) :
    ("p", pt, rule) ∈ recs.filter (fun r => filterKeeps fp fg r.1 r.2.2) ↔
      ("p", pt, rule) ∈ recs ∧ filterKeeps fp [] "p" rule = true := by
  rw [List.mem_filter]
  have : filterKeeps fp fg "p" rule = filterKeeps fp [] "p" rule := by unfold filterKeeps; simp
  simp only [this]

/-- the tail of a load (link build, restore after a failure) hands the adapter on untouched -/
theorem finishLoad_adapter (e : Enforcer) (old : Store) (a : AdapterSt) (s : Store) (ok : Option Unit) :
    (e.finishLoad old a s ok).1.adapter = a := by
  obtain ⟨_, _, h⟩ := finishLoad_frame e old a s ok
  rw [h]

/-- a full `load_policy` the adapter serves leaves the flag off, whether or not the link build then succeeds, and the flag
is all `save_policy` refuses on (`filtered_cannot_save`) -/
theorem full_load_allows_save (e : Enforcer) (hp : e.adapter.plan = []) :
    e.loadPolicy.1.adapter.filtered = false := by
  unfold Enforcer.loadPolicy
  rw [finishLoad_adapter]
  exact full_load_unfiltered e.adapter e.store.clear hp

/-- **a `clear_policy` the adapter fails (error, refusal, failure part-way) leaves the guard in place**: the `is_filtered`
flag stays, so a filtered enforcer still cannot save (`filtered_cannot_save`) -/
theorem failed_clear_keeps_guard (e : Enforcer) (hs : e.autoSave = true) (f : Fault) (rest : List Fault)
    (hp : e.adapter.plan = f :: rest) (hf : f ≠ .pass) :
    e.clearPolicy.1.store = e.store ∧ e.clearPolicy.1.adapter.filtered = e.adapter.filtered ∧
    e.clearPolicy.2 = .err .adapter := by
  have hc : e.adapter.clear = ({ e.adapter with plan := rest }, none) := by
    unfold AdapterSt.clear AdapterSt.nextFault
    rw [hp]
    cases f with
    | pass => exact absurd rfl hf
    | _ => rfl
  unfold Enforcer.clearPolicy
  rw [if_pos hs, hc]
  exact ⟨rfl, rfl, rfl⟩

def demoStore : Store := ⟨[{ key := "p", tokens := [], arity := 0, policy := [] }], [{ key := "g", tokens := [], arity := 2, policy := [] }]⟩
def demoMem : AdapterSt :=
  { kind := .memory, lines := [["p", "p", "alice", "d1", "read"], ["p", "p", "bob", "d2", "read"], ["g", "g", "alice", "admin"]],
    text := [], filtered := false, plan := [] }
/-- regression for the repaired memory / string loaders (F8) -/
example : ((demoMem.loadFiltered demoStore.clear ["alice"] []).2.1.getPolicy "p" "p") = [["alice", "d1", "read"]] := by decide +kernel
example : (demoMem.loadFiltered demoStore.clear ["alice"] []).1.filtered = true := by decide +kernel
example : (demoMem.loadFiltered demoStore.clear ["", "d2"] ["alice"]).2.1.getPolicy "g" "g" = [["alice", "admin"]] := by decide +kernel

end Casbin.C12
