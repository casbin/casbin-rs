import CasbinModel.Lemmas.Closure
import CasbinModel.Props.C03
import CasbinModel.Props.C04
import CasbinModel.Props.C08
/-!
# C13 — RBAC queries agree with enforcement

For every well-formed role manager (any history; cycles, diamonds): implicit roles are the names reachable by at least
one link; implicit permissions are the stored rules held by the user or one of those roles.
`enforce_iff_implicitPerm` is stated for an arbitrary predicate `holds` on subjects.  For an RBAC matcher `holds` is
`has_link`, by C03 "the subject or one of its implicit roles" below the depth limit, so a request is granted iff it is
among the implicit permissions: this instantiation is prose, no theorem makes it.  The `*_post` theorems are about the
chains of `Store.removeFiltered` the delete helpers run when the adapter does not veto.  `Enforcer.deleteUser`,
`deleteRole`, `deletePermission` occur in no theorem; they are compared with the crate through the driver only.
-/
namespace Casbin.C13
open Casbin

/-- **Implicit roles = reachability (≥ 1 link)** -/
theorem implicitRoles_eq_reach (e : Enforcer) (hw : e.rm.WF) (name : String) (d : Option String) (r : String) :
    r ∈ e.getImplicitRoles name d ↔
      Reach1 (fun n => e.rm.getRoles n (optDom d)) name r := by
  unfold Enforcer.getImplicitRoles implicitRolesGo RoleMgr.nodeCount
  exact closure_eq_reach _ _ _ (fun x y hy => ((hw _).edges_in _ ((C03.getRoles_eq e.rm hw x _ y).mp hy)).2) r

/-- a step of `Reach1` in `implicitRoles_eq_reach` is a link of the domain -/
theorem step_is_link (rm : RoleMgr String) (hw : rm.WF) (d x y : String) :
    y ∈ rm.getRoles x d ↔ (x, y) ∈ (rm.graph d).edges := C03.getRoles_eq rm hw x d y

/-- **Roles-for-user and users-for-role are inverse views of the same links.** -/
theorem roles_users_inverse (rm : RoleMgr String) (hw : rm.WF) (u r d : String) :
    r ∈ rm.getRoles u d ↔ u ∈ rm.getUsers r d := by
  rw [C03.getRoles_eq rm hw, C03.getUsers_eq rm hw]

theorem hasRole_iff (e : Enforcer) (name role : String) (d : Option String) :
    e.hasRoleForUser name role d = true ↔ role ∈ e.getRolesForUser name d := by
  simp [Enforcer.hasRoleForUser]

/-- **Implicit permissions**: the stored rules of the user or an implicit role, within the domain if one is given -/
theorem implicitPerms_eq (e : Enforcer) (user : String) (d : Option String) (rule : Rule) :
    rule ∈ e.getImplicitPermissions user d ↔
      ∃ holder, (holder = user ∨ holder ∈ e.getImplicitRoles user d) ∧
        rule ∈ e.store.getPolicy "p" "p" ∧
        filterMatch 0 (match d with | some dom => [holder, dom] | none => [holder]) rule = true := by
  unfold Enforcer.getImplicitPermissions Enforcer.getPermissionsForUser Store.getFiltered
  simp only [List.mem_flatMap, List.mem_cons, List.mem_filter]
  exact Iff.rfl

theorem filterMatch_singleton (idx : Nat) (v : String) (hne : v ≠ "") (rule : Rule) :
    filterMatch idx [v] rule = true ↔ rule[idx]? = some v := by
  rw [C04.filterMatch_iff]
  refine ⟨fun h => h 0 v rfl hne, fun h i w hi _ => ?_⟩
  match i, hi with
  | 0, hi => cases hi; exact h

/-- what the filter `[holder]` at index 0 (`get_permissions_for_user` without a domain) means -/
theorem holder_filter (holder : String) (hne : holder ≠ "") (rule : Rule) :
    filterMatch 0 [holder] rule = true ↔ rule[0]? = some holder :=
  filterMatch_singleton 0 holder hne rule

/-- the same with a domain: `[holder, dom]` -/
theorem holder_dom_filter (holder dom : String) (hne : holder ≠ "") (hnd : dom ≠ "") (rule : Rule) :
    filterMatch 0 [holder, dom] rule = true ↔ rule[0]? = some holder ∧ rule[1]? = some dom := by
  rw [C04.filterMatch_iff]
  refine ⟨fun h => ⟨h 0 holder rfl hne, h 1 dom rfl hnd⟩, fun h i w hi _ => ?_⟩
  match i, hi with
  | 0, hi => cases hi; exact h.1
  | 1, hi => cases hi; exact h.2

/-- **Enforcement ⇔ implicit permission**, abstract matcher form: `m` is true exactly on the rules whose subject
satisfies `holds` and whose remaining fields are `tail`.  The RBAC reading, `holds s := has_link(r.sub, s)`, is in the
file header; neither `hasLink` nor `getImplicitPermissions` occurs in the statement. -/
theorem enforce_iff_implicitPerm (c : EvalCfg) (reqLen : Nat) (m : MatchFn)
    (hr : C01.Ready c reqLen .allowOverride) (hne : c.policy ≠ []) (hnoeft : c.ptokens.idxOf? c.eftToken = none)
    (holds : String → Bool) (tail : List String)
    (hlen : ∀ rule ∈ c.policy, rule.length = c.ptokens.length)
    (hm : ∀ rule ∈ c.policy, m rule = some ((match rule[0]? with | some s => holds s | none => false) && rule.drop 1 == tail)) :
    enforceCore c reqLen m = .ok true ↔
      ∃ rule ∈ c.policy, (∃ s, rule[0]? = some s ∧ holds s = true) ∧ rule.drop 1 = tail := by
  rw [C08.allow_override_iff c reqLen m hr hne (fun rule hrule => ⟨hlen rule hrule, by rw [hm rule hrule]; rfl⟩),
    hnoeft]
  refine exists_congr fun rule => and_congr_right fun hrule => ?_
  -- no effect column: the effect is `allow` exactly when the matcher says `true`
  have heff : C08.effOf none m rule = .allow ↔ m rule = some true :=
    ⟨C08.effOf_allow, fun h => by unfold C08.effOf; rw [h]; rfl⟩
  rw [heff, hm rule hrule, Option.some.injEq, Bool.and_eq_true, beq_iff_eq]
  cases rule[0]? <;> simp

theorem removeFiltered_other (s : Store) (sec pt sec' pt' : String) (idx : Nat) (vals : List String)
    (h : ¬ (sec = sec' ∧ pt = pt')) :
    (s.removeFiltered sec pt idx vals).1.getPolicy sec' pt' = s.getPolicy sec' pt' := by
  rw [Store.getPolicy_removeFiltered_of_filter, if_neg fun hc => h ⟨hc.1, hc.2.1⟩]

theorem removeFiltered_none_left (s : Store) (sec pt : String) (idx : Nat) (vals : List String) (hv : vals ≠ []) :
    ∀ rule ∈ (s.removeFiltered sec pt idx vals).1.getPolicy sec pt, filterMatch idx vals rule = false := by
  intro rule hrule
  rw [Store.getPolicy_removeFiltered_of_filter, if_pos ⟨rfl, rfl, hv⟩] at hrule
  simpa using (List.mem_filter.mp hrule).2

theorem removeFiltered_post (s : Store) (sec pt : String) (idx : Nat) (n : String) (hn : n ≠ "") :
    ∀ rule ∈ (s.removeFiltered sec pt idx [n]).1.getPolicy sec pt, rule[idx]? ≠ some n := fun rule hrule h =>
  Bool.false_ne_true ((removeFiltered_none_left s sec pt idx [n] (by simp) rule hrule).symm.trans
    ((filterMatch_singleton idx n hn rule).mpr h))

/-- `delete_user` (`i = 0`) and `delete_role` (`i = 1`): a removal from `g` at position `i`, then from `p` at the
subject position -/
theorem deleteHelper_post (s : Store) (n : String) (hn : n ≠ "") (i : Nat) :
    let s2 := ((s.removeFiltered "g" "g" i [n]).1.removeFiltered "p" "p" 0 [n]).1
    (∀ rule ∈ s2.getPolicy "g" "g", rule[i]? ≠ some n) ∧ (∀ rule ∈ s2.getPolicy "p" "p", rule[0]? ≠ some n) := by
  refine ⟨fun rule hrule => ?_, removeFiltered_post _ "p" "p" 0 n hn⟩
  rw [removeFiltered_other _ "p" "p" "g" "g" 0 [n] (by decide)] at hrule
  exact removeFiltered_post s "g" "g" i n hn rule hrule

/-- **delete_user** (store level, adapter not vetoing) -/
theorem deleteUser_post (s : Store) (n : String) (hn : n ≠ "") :
    let s1 := (s.removeFiltered "g" "g" 0 [n]).1
    let s2 := (s1.removeFiltered "p" "p" 0 [n]).1
    (∀ rule ∈ s2.getPolicy "g" "g", rule[0]? ≠ some n) ∧ (∀ rule ∈ s2.getPolicy "p" "p", rule[0]? ≠ some n) :=
  deleteHelper_post s n hn 0

/-- **delete_role** (store level, adapter not vetoing) -/
theorem deleteRole_post (s : Store) (n : String) (hn : n ≠ "") :
    let s1 := (s.removeFiltered "g" "g" 1 [n]).1
    let s2 := (s1.removeFiltered "p" "p" 0 [n]).1
    (∀ rule ∈ s2.getPolicy "g" "g", rule[1]? ≠ some n) ∧ (∀ rule ∈ s2.getPolicy "p" "p", rule[0]? ≠ some n) :=
  deleteHelper_post s n hn 1

/-- **delete_permission** (store level).  `hne` is unused (kept so that the `*_post` statements share their premises):
the conclusion speaks of `filterMatch` itself, for which an empty value is a wildcard. -/
theorem deletePermission_post (s : Store) (perm : List String) (hp : perm ≠ []) (hne : ∀ v ∈ perm, v ≠ "") :
    ∀ rule ∈ (s.removeFiltered "p" "p" 1 perm).1.getPolicy "p" "p", filterMatch 1 perm rule = false :=
  removeFiltered_none_left s "p" "p" 1 perm hp

/-- **the delete helpers touch `g` and `p` only**: every other role definition and policy type keeps its rules, in
order -/
theorem delete_helpers_confined (s : Store) (n : String) (i : Nat) (sec' pt' : String)
    (h1 : ¬ ("g" = sec' ∧ "g" = pt')) (h2 : ¬ ("p" = sec' ∧ "p" = pt')) :
    ((s.removeFiltered "g" "g" i [n]).1.removeFiltered "p" "p" 0 [n]).1.getPolicy sec' pt' = s.getPolicy sec' pt' := by
  rw [removeFiltered_other _ "p" "p" sec' pt' 0 [n] h2, removeFiltered_other s "g" "g" sec' pt' i [n] h1]

example (s : Store) (n : String) :
    ((s.removeFiltered "g" "g" 0 [n]).1.removeFiltered "p" "p" 0 [n]).1.getPolicy "g" "g2" = s.getPolicy "g" "g2" :=
  delete_helpers_confined s n 0 "g" "g2" (by decide) (by decide)

/-! ### Non-vacuity: a diamond with a cycle -/
def demoRm : RoleMgr String :=
  (RoleMgr.new 10).run [.add "u" "a" "DEFAULT", .add "u" "b" "DEFAULT", .add "a" "c" "DEFAULT",
    .add "b" "c" "DEFAULT", .add "c" "u" "DEFAULT"]
/-- the order is the model's (the source pops with `swap_remove(0)` into a `HashSet`); the driver sorts -/
example : (closureGo (fun n => demoRm.getRoles n "DEFAULT") 6 ["u"] []) = ["b", "a", "c", "u"] := by decide +kernel

end Casbin.C13
