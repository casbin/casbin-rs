import CasbinModel.Lemmas.Mono
import CasbinModel.Props.C01
import CasbinModel.Props.C02
import CasbinModel.Props.C05
import CasbinModel.KeyMatch
import CasbinModel.Lemmas.PatRoles
/-! # C08 — Granting never revokes and revoking never grants

* a negation-free matcher is monotone in the role links (`Lemmas/Mono.lean`), and `has_link` in the link set for
  hierarchies below the depth limit;
* under allow-override a decision is "some stored rule matches with effect allow": monotone in the rule set and in the
  matcher;
* under deny-override and allow-and-deny a deny rule (one yielding only `deny` or `indeterminate`) never turns a denial
  into a grant;
* for the role manager as written (`PatRoles.lean`): false with a role-matching function installed (`k2_witness`), true
  with a domain-matching function only (`pattern_domains_addLink_mono`).

Hypotheses forced by the proofs and reported by the check: evaluations do not fail (an added link can make a
short-circuited ill-typed operand reachable); the store is non-empty on both sides (known finding `empty-store-grant`).
-/
namespace Casbin.C08
open Casbin

/-- only the larger manager needs `WF` and the depth bound: soundness on the small side holds without them -/
theorem hasLink_mono (rm rm' : RoleMgr String) (hw' : rm'.WF) (d : String)
    (hsub : ∀ x y, (x, y) ∈ (rm.graph d).edges → (x, y) ∈ (rm'.graph d).edges)
    (hsh : C05.Shallow (rm'.graph d) rm'.maxLevel) (a b : String)
    (h : rm.hasLink a b d = true) : rm'.hasLink a b d = true :=
  (C03.hasLink_iff_reach rm' hw' d hsh a b).mpr ((C03.hasLink_sound rm a b d h).imp_right (Reach.mono hsub))

/-- `eval_mono` for `evalBool` -/
theorem matcher_monotone_links {env env' : Env} (h : EnvLe env env') {e : Expr} (hp : Positive e)
    (h1 : e.evalBool env = some true) (h2 : e.evalBool env' ≠ none) : e.evalBool env' = some true := by
  rw [evalBool_eq_some] at h1 ⊢
  exact eval_mono h hp 8 h1 (fun hn => h2 (by unfold Expr.evalBool; rw [hn]))

/-- effect of a rule under a matcher, for well-formed rules.  A matcher error counts as `indet` here; every theorem
stated with `effOf` assumes `(m rule).isSome` (`map_ruleOutcome_of_ok`). -/
def effOf (eftIdx : Option Nat) (m : MatchFn) (rule : Rule) : Eff :=
  match m rule with
  | some b => ruleEffect eftIdx b rule
  | none => .indet

theorem effOf_allow {eftIdx : Option Nat} {m : MatchFn} {rule : Rule} (h : effOf eftIdx m rule = .allow) :
    m rule = some true := by
  unfold effOf at h
  cases hm : m rule with
  | none => rw [hm] at h; cases h
  | some b => cases b with
    | true => rfl
    | false => rw [hm] at h; cases h

theorem map_ruleOutcome_of_ok (ntok : Nat) (eftIdx : Option Nat) (m : MatchFn) (rules : List Rule)
    (hok : ∀ rule ∈ rules, rule.length = ntok ∧ (m rule).isSome) :
    rules.map (ruleOutcome ntok eftIdx m) = (rules.map (effOf eftIdx m)).map Except.ok := by
  rw [List.map_map]
  apply List.map_congr_left
  intro rule hrule
  obtain ⟨hl, hs⟩ := hok rule hrule
  obtain ⟨b, hm⟩ := Option.isSome_iff_exists.mp hs
  rw [ruleOutcome_of_some eftIdx hl hm, Function.comp_apply, effOf, hm]

theorem allow_override_iff (c : EvalCfg) (reqLen : Nat) (m : MatchFn)
    (hr : C01.Ready c reqLen .allowOverride) (hne : c.policy ≠ [])
    (hok : ∀ rule ∈ c.policy, rule.length = c.ptokens.length ∧ (m rule).isSome) :
    enforceCore c reqLen m = .ok true ↔
      ∃ rule ∈ c.policy, effOf (c.ptokens.idxOf? c.eftToken) m rule = .allow := by
  rw [C01.enforce_errorfree c reqLen m .allowOverride hr hne _ (map_ruleOutcome_of_ok _ _ m _ hok), Out.ok.injEq,
    C02.combine_allowOverride, List.mem_map]

/-- **Granting never revokes** (allow-override), in the rule set and in the matcher. -/
theorem allow_grant_monotone (c c' : EvalCfg) (reqLen : Nat) (m m' : MatchFn)
    (hr : C01.Ready c reqLen .allowOverride) (hr' : C01.Ready c' reqLen .allowOverride)
    (htok : c.ptokens = c'.ptokens) (heft : c.eftToken = c'.eftToken)
    (hne : c.policy ≠ []) (hsub : ∀ rule ∈ c.policy, rule ∈ c'.policy)
    (hok : ∀ rule ∈ c.policy, rule.length = c.ptokens.length ∧ (m rule).isSome)
    (hok' : ∀ rule ∈ c'.policy, rule.length = c'.ptokens.length ∧ (m' rule).isSome)
    (hmono : ∀ rule, m rule = some true → m' rule = some true)
    (h : enforceCore c reqLen m = .ok true) : enforceCore c' reqLen m' = .ok true := by
  obtain ⟨rule, hrule, heff⟩ := (allow_override_iff c reqLen m hr hne hok).mp h
  have hm := effOf_allow heff
  refine (allow_override_iff c' reqLen m' hr' (List.ne_nil_of_mem (hsub rule hrule)) hok').mpr
    ⟨rule, hsub rule hrule, ?_⟩
  unfold effOf at heff ⊢
  rw [hm] at heff
  rw [hmono rule hm, ← htok, ← heft]; exact heff

/-- **Revoking never grants**: `allow_grant_monotone` read from the larger configuration to the smaller. -/
theorem allow_revoke_antitone (c c' : EvalCfg) (reqLen : Nat) (m m' : MatchFn)
    (hr : C01.Ready c reqLen .allowOverride) (hr' : C01.Ready c' reqLen .allowOverride)
    (htok : c.ptokens = c'.ptokens) (heft : c.eftToken = c'.eftToken)
    (hne : c.policy ≠ []) (hsub : ∀ rule ∈ c.policy, rule ∈ c'.policy)
    (hok : ∀ rule ∈ c.policy, rule.length = c.ptokens.length ∧ (m rule).isSome)
    (hok' : ∀ rule ∈ c'.policy, rule.length = c'.ptokens.length ∧ (m' rule).isSome)
    (hmono : ∀ rule, m rule = some true → m' rule = some true)
    (h : enforceCore c' reqLen m' ≠ .ok true) : enforceCore c reqLen m ≠ .ok true :=
  fun hg => h (allow_grant_monotone c c' reqLen m m' hr hr' htok heft hne hsub hok hok' hmono hg)

/-- the effect-list core of the deny half -/
theorem deny_insert_never_grants (ex : EffExpr) (hex : ex = .denyOverride ∨ ex = .allowAndDeny)
    (l1 l2 : List Eff) (e : Eff) (he : e ≠ .allow)
    (h : combine ex (l1 ++ e :: l2) = true) : combine ex (l1 ++ l2) = true := by
  -- the longer list has every effect of the shorter one, and `e` besides
  have hmem : ∀ x, x ∈ l1 ++ e :: l2 ↔ x = e ∨ x ∈ l1 ++ l2 := fun x => by
    simp only [List.mem_append, List.mem_cons]; exact or_left_comm
  rcases hex with rfl | rfl
  · rw [C02.combine_denyOverride, hmem] at h
    exact (C02.combine_denyOverride _).mpr fun hd => h (Or.inr hd)
  · rw [C02.combine_allowAndDeny, hmem, hmem] at h
    exact (C02.combine_allowAndDeny _).mpr ⟨h.1.resolve_left (Ne.symm he), fun hd => h.2 (Or.inr hd)⟩

theorem deny_remove_never_denies (ex : EffExpr) (hex : ex = .denyOverride ∨ ex = .allowAndDeny)
    (l1 l2 : List Eff) (e : Eff) (he : e ≠ .allow)
    (h : combine ex (l1 ++ l2) = false) : combine ex (l1 ++ e :: l2) = false := by
  cases hc : combine ex (l1 ++ e :: l2) with
  | false => rfl
  | true => rw [deny_insert_never_grants ex hex l1 l2 e he hc] at h; cases h

theorem deny_rule_effect (j : Nat) (b : Bool) (rule : Rule) (h : rule[j]? = some "deny") :
    ruleEffect (some j) b rule ≠ .allow := by
  cases b <;> simp [ruleEffect, h]

/-- **Adding a deny rule never grants** (deny-override / allow-and-deny), error-free stores. -/
theorem deny_add_never_grants (c c' : EvalCfg) (reqLen : Nat) (m : MatchFn) (ex : EffExpr)
    (hex : ex = .denyOverride ∨ ex = .allowAndDeny)
    (hr : C01.Ready c reqLen ex) (hr' : C01.Ready c' reqLen ex)
    (htok : c.ptokens = c'.ptokens) (heft : c.eftToken = c'.eftToken)
    (l1 l2 : List Rule) (rule : Rule) (j : Nat)
    (hpol : c.policy = l1 ++ l2) (hpol' : c'.policy = l1 ++ rule :: l2) (hne : c.policy ≠ [])
    (hj : c.ptokens.idxOf? c.eftToken = some j) (hdeny : rule[j]? = some "deny")
    (hok' : ∀ r ∈ c'.policy, r.length = c'.ptokens.length ∧ (m r).isSome)
    (h : enforceCore c' reqLen m = .ok true) : enforceCore c reqLen m = .ok true := by
  have hne' : c'.policy ≠ [] := hpol' ▸ List.append_ne_nil_of_right_ne_nil _ (List.cons_ne_nil _ _)
  have hok : ∀ r ∈ c.policy, r.length = c.ptokens.length ∧ (m r).isSome := fun r hrm =>
    htok ▸ hok' r (hpol' ▸ ((List.sublist_cons_self rule l2).append_left l1).subset (hpol ▸ hrm))
  rw [C01.enforce_errorfree c' reqLen m ex hr' hne' _ (map_ruleOutcome_of_ok _ _ m _ hok'), hpol', ← htok, ← heft, hj,
    List.map_append, List.map_cons] at h
  rw [C01.enforce_errorfree c reqLen m ex hr hne _ (map_ruleOutcome_of_ok _ _ m _ hok), hpol, hj, List.map_append]
  refine congrArg Out.ok (deny_insert_never_grants ex hex _ _ _ ?_ (Out.ok.inj h))
  unfold effOf
  cases m rule with
  | none => nofun
  | some b => exact deny_rule_effect j b rule hdeny

/-! ### Non-vacuity and the recorded corner -/

example : Positive (.and (.g2 "g" (.r 0) (.p 0)) (.cmp .eq (.r 1) (.p 1))) :=
  .and (.g2 (.r 0) (.p 0)) (.cmpEq (.r 1) (.p 1))

/-- known finding `empty-store-grant`: on an empty store the all-empty request is granted (matcher evaluated on empty
fields, as C01 prescribes); after adding a rule it is denied -/
example :
    enforceCore { C01.demoCfg with policy := [], effExpr := some .allowOverride } 2
      (fun rule => some (rule[0]? = some "" && rule[1]? = some "")) = .ok true ∧
    enforceCore { C01.demoCfg with policy := [["alice", "d1", "allow"]], effExpr := some .allowOverride } 2
      (fun rule => some (rule[0]? = some "" && rule[1]? = some "")) = .ok false := by decide +kernel

/-! ### Known finding K2, in the model of the manager as written (`PatRoles.lean`)

With a role-matching function installed the property is false of the code and of its model: a name that is not a node
is answered from the first pattern node matching it, and the first link that mentions the name makes it a node of its
own.  The witness is the history the check replays on the crate on every run (first case of the `prm` stream and of the
pattern-role stream). -/

/-- `key_match` as the role-matching function -/
def kmFn : RoleFn Str := some keyMatch
def dflt : Str := "DEFAULT".toList

/-- `g b*,alice; g *,guest; remove g *,guest; g reader,guest; g b*,*` on a fresh manager -/
def k2State : PRm Str :=
  (((((PRm.new 10).addLink kmFn "b*".toList "alice".toList dflt).addLink kmFn "*".toList "guest".toList dflt).deleteLink
      kmFn none "*".toList "guest".toList dflt).getD (PRm.new 10)
    |>.addLink kmFn "reader".toList "guest".toList dflt).addLink kmFn "b*".toList "*".toList dflt

/-- **adding a link revokes**: `bob` reaches `guest` through the patterns, and no longer does once
`g guest,bob` has made `bob` a node -/
theorem k2_witness :
    k2State.hasLink kmFn none "bob".toList "guest".toList dflt = true ∧
    (k2State.addLink kmFn "guest".toList "bob".toList dflt).hasLink kmFn none "bob".toList "guest".toList dflt = false := by
  decide +kernel

theorem pattern_roles_not_monotone :
    ¬ ∀ (rm : PRm Str) (x y a b d : Str), rm.hasLink kmFn none x y d = true →
        (rm.addLink kmFn a b d).hasLink kmFn none x y d = true := by
  intro h
  have h1 := h k2State "bob".toList "guest".toList "guest".toList "bob".toList dflt k2_witness.1
  rw [k2_witness.2] at h1
  cases h1

/-- **pattern domains: granting never revokes.**  With a domain-matching function only, adding a link, in a concrete
or in a pattern domain, takes no role away while the hierarchies stay below the depth limit. -/
theorem pattern_domains_addLink_mono (rm : RoleMgr String) (hw : rm.WF) (df : RoleFn String)
    (x y d' a b d : String)
    (hsh : ∀ k, C05.Shallow ((rm.addLink x y d').graph k) rm.maxLevel)
    (h : rm.toP.hasLink none df a b d = true) :
    (rm.toP.addLink none x y d').hasLink none df a b d = true := by
  rw [addLink_toP]
  by_cases hab : a = b
  · simp [PRm.hasLink, hab]
  · rw [hasLink_toP_df _ _ _ _ _ hab, List.any_eq_true] at h ⊢
    obtain ⟨k, hk, hl⟩ := h
    exact ⟨k, matchedDomains_addLink rm df x y d' d k hk,
      hasLink_mono rm _ (addLink_WF hw x y d') k
        (fun u v huv => (addLink_edges hw x y d' k u v).mpr (Or.inl huv))
        (by rw [addLink_maxLevel]; exact hsh k) a b hl⟩

theorem shallow_star (g : Graph String) (v : String) (n : Nat) (hn : 2 ≤ n)
    (he : ∀ x y, (x, y) ∈ g.edges → x ≠ v ∧ y = v) : C05.Shallow g n := by
  intro a b ⟨k, hp⟩
  cases hp with
  | nil => exact ⟨0, by omega, Path.nil _⟩
  | cons h1 hp' =>
    cases hp' with
    | nil => exact ⟨1, by omega, Path.cons h1 (Path.nil _)⟩
    | cons h2 _ => exact absurd (he _ _ h1).2 (he _ _ h2).1

theorem shallow_single (g : Graph String) (u v : String) (huv : u ≠ v) (n : Nat) (hn : 2 ≤ n)
    (he : ∀ x y, (x, y) ∈ g.edges → x = u ∧ y = v) : C05.Shallow g n :=
  shallow_star g v n hn fun x y h => ⟨(he x y h).1 ▸ huv, (he x y h).2⟩

def pdDemo : RoleMgr String := (RoleMgr.new 10).addLink "alice" "admin" "domain1"

/-- non-vacuity of `pattern_domains_addLink_mono`: a link in a concrete domain, a second added in the pattern domain
`*`, which the domain function lets match every request domain -/
example :
    (pdDemo.toP.addLink none "bob" "admin" "*").hasLink none (some fun d k => k == "*" || k == d) "alice" "admin" "domain1" = true ∧
    (pdDemo.toP.addLink none "bob" "admin" "*").hasLink none (some fun d k => k == "*" || k == d) "bob" "admin" "domain1" = true ∧
    pdDemo.toP.hasLink none (some fun d k => k == "*" || k == d) "bob" "admin" "domain1" = false := by
  refine ⟨?_, by decide +kernel, by decide +kernel⟩
  have hw : pdDemo.WF := addLink_WF (WF_new 10) _ _ _
  apply pattern_domains_addLink_mono pdDemo hw _ "bob" "admin" "*" "alice" "admin" "domain1"
  · -- in every domain, the links are among `alice → admin` and `bob → admin`
    intro k
    refine shallow_star _ "admin" _ (Nat.le_add_left 2 8) fun x y h => ?_
    rw [addLink_edges hw, pdDemo, addLink_edges (WF_new 10)] at h
    rcases h with (h | ⟨_, _, rfl, rfl⟩) | ⟨_, _, rfl, rfl⟩
    · cases h
    · exact ⟨by simp, rfl⟩
    · exact ⟨by simp, rfl⟩
  · decide +kernel

end Casbin.C08
