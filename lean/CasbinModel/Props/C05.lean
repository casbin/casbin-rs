import CasbinModel.Lemmas.Links
import CasbinModel.Props.C03
import CasbinModel.Lemmas.Shape
/-!
# C05 — The role graph always reflects the stored grouping rules   (*partial*, see below)

For one role definition of arity 2 or 3 whose rules have at least `arity` fields, the invariant `GSync` (the graph
holds exactly the links the stored rules imply) survives every management call, load, clear, rebuild and
reconfiguration, auto-save on or off, whatever the adapter answers, while automatic link building is on (no call
switches it).  Every call leaves what the invariant reads (`GSyncOn`) alone, or updates the graph after a change of
one rule *set* (`gsyncOn_linkRes`, from `Casbin.incr_synced`), or ends in a rebuild over the same definitions
(`gsyncOn_rebuild`, from `Casbin.build_single`).  Managers holding the same links answer alike below the depth
limit, so an explicit rebuild changes nothing.

False on the current tree for several role definitions: they share one role manager (known finding
`shared-role-manager`, see C19).
-/
namespace Casbin.C05
open Casbin

/-! ### Same links, same answers -/

/-- hierarchies below the depth limit -/
def Shallow (g : Graph String) (n : Nat) : Prop := ∀ a b, Reach g a b → ∃ L, L < n ∧ Path g a b L

/-- **An explicit rebuild changes no answer**: managers holding the same links (as `SyncedWith` the same rules gives)
answer `has_link`, `get_roles`, `get_users` alike below the depth limit. -/
theorem same_links_same_answers (rm1 rm2 : RoleMgr String) (hw1 : rm1.WF) (hw2 : rm2.WF)
    (hm : rm1.maxLevel = rm2.maxLevel) (d : String)
    (he : ∀ x y, (x, y) ∈ (rm1.graph d).edges ↔ (x, y) ∈ (rm2.graph d).edges)
    (hsh : Shallow (rm1.graph d) rm1.maxLevel) (a b : String) :
    rm1.hasLink a b d = rm2.hasLink a b d ∧
    (∀ x, x ∈ rm1.getRoles a d ↔ x ∈ rm2.getRoles a d) ∧
    (∀ x, x ∈ rm1.getUsers a d ↔ x ∈ rm2.getUsers a d) := by
  have hr : ∀ a b, Reach (rm1.graph d) a b ↔ Reach (rm2.graph d) a b := fun a b =>
    ⟨Reach.mono fun x y => (he x y).mp, Reach.mono fun x y => (he x y).mpr⟩
  have hsh2 : Shallow (rm2.graph d) rm2.maxLevel := fun a b h =>
    (hsh a b ((hr a b).mpr h)).imp fun L hL => ⟨hm ▸ hL.1, hL.2.mono fun x y => (he x y).mp⟩
  refine ⟨Bool.eq_iff_iff.mpr ?_, ?_, ?_⟩
  · rw [C03.hasLink_iff_reach rm1 hw1 d hsh, C03.hasLink_iff_reach rm2 hw2 d hsh2, hr]
  · intro x; rw [C03.getRoles_eq rm1 hw1, C03.getRoles_eq rm2 hw2]; exact he a x
  · intro x; rw [C03.getUsers_eq rm1 hw1, C03.getUsers_eq rm2 hw2]; exact he x a

/-! ### The invariant -/

/-- the graph holds exactly the links implied by the stored rules of the (single) role definition, all long enough -/
def GSync (e : Enforcer) : Prop :=
  ∃ d, e.store.g = [d] ∧ (d.arity = 2 ∨ d.arity = 3) ∧ WFRules d.arity d.policy ∧
    SyncedWith d.arity e.rm d.policy ∧ e.rm.WF

/-- the invariant of the two things it reads: `GSync e` unfolds to `GSyncOn e.store.g e.rm` -/
def GSyncOn (g : List PolDef) (rm : RoleMgr String) : Prop := ∃ d, g = [d] ∧ d.Synced rm

/-- a single role definition, of two or three places -/
def OneRole (g : List PolDef) : Prop := ∃ d, g = [d] ∧ (d.arity = 2 ∨ d.arity = 3)

/-- what a rebuild needs to succeed -/
def Linkable (g : List PolDef) : Prop := ∃ d, g = [d] ∧ (d.arity = 2 ∨ d.arity = 3) ∧ WFRules d.arity d.policy

theorem GSync.linkable {e : Enforcer} (h : GSync e) : Linkable e.store.g := h.imp fun _ h => ⟨h.1, h.2.1, h.2.2.1⟩

theorem Linkable.oneRole {g : List PolDef} (h : Linkable g) : OneRole g := h.imp fun _ h => ⟨h.1, h.2.1⟩

theorem OneRole.of_gArities {s s' : Store} (h : OneRole s.g) (he : s'.gArities = s.gArities) : OneRole s'.g := by
  obtain ⟨d, hg, ha⟩ := h
  unfold Store.gArities at he
  rw [hg] at he
  obtain ⟨d', hg', hd⟩ := List.map_eq_singleton_iff.1 he
  exact ⟨d', hg', hd ▸ ha⟩

theorem OneRole.cleared {s : Store} (h : OneRole s.g) : Linkable s.clear.g := by
  obtain ⟨d, hg, ha⟩ := h
  exact ⟨{ d with policy := [] }, by simp [Store.clear, hg], ha, fun r hr => by cases hr⟩

theorem gsyncOn_built {g : List PolDef} (hs : OneRole g) (rm : RoleMgr String) (h : (buildRoleLinks rm g).2 = none) :
    GSyncOn g (buildRoleLinks rm g).1 := by
  obtain ⟨d, rfl, ha⟩ := hs
  exact ⟨d, rfl, (build_single rm d ha).2 h⟩

theorem gsyncOn_rebuild {g : List PolDef} (h : Linkable g) (rm : RoleMgr String) :
    (buildRoleLinks rm g).2 = none ∧ GSyncOn g (buildRoleLinks rm g).1 := by
  obtain ⟨d, rfl, ha, hwf⟩ := h
  have hn := (build_single rm d ha).1.mpr hwf
  exact ⟨hn, gsyncOn_built ⟨d, rfl, ha⟩ rm hn⟩

/-! ### Incremental updates -/

theorem find_g_single (s : Store) (d : PolDef) (h : s.g = [d]) (pt : String) :
    s.find "g" pt = if d.key = pt then some d else none := by
  unfold Store.find Store.sec
  simp only [h]
  by_cases hk : d.key = pt <;> simp [hk]

/-- a store with the same role definitions apart from their rules (what `Mgmt.Std.map` gives of a step) still has the one
definition, now holding what `getPolicy` reads -/
theorem g_single_of {s s' : Store} {d : PolDef} (hg : s.g = [d]) (h : s'.clear.g = s.clear.g) :
    s'.g = [{ d with policy := s'.getPolicy "g" d.key }] := by
  unfold Store.clear at h
  dsimp only at h
  rw [hg] at h
  obtain ⟨d', hg', hd⟩ := List.map_eq_singleton_iff.1 h
  have hk := congrArg PolDef.key hd
  rw [hg', Store.getPolicy_of_find ((find_g_single s' d' hg' d.key).trans (if_pos hk))]
  cases d'; cases d; cases hd; rfl

/-- with one role definition the link update runs iff a change was reported on exactly that definition -/
theorem linkRes_single (rm : RoleMgr String) {s : Store} {d : PolDef} (hg : s.g = [d]) (c : Bool) (sec pt : String)
    (ins : Bool) (rs : List Rule) :
    linkRes rm true s c sec pt ins rs =
      if c = true ∧ sec = "g" ∧ pt = d.key then buildIncremental rm d ins rs else (rm, none) := by
  split
  · rename_i h
    obtain ⟨rfl, rfl, rfl⟩ := h
    exact linkRes_g ((find_g_single s d hg _).trans (if_pos rfl)) rm ins rs
  · rename_i h
    by_cases hsec : sec = "g"
    · cases c with
      | false => rfl
      | true =>
        subst hsec
        have hf : s.find "g" pt = none := (find_g_single s d hg pt).trans (if_neg fun hk => h ⟨rfl, rfl, hk.symm⟩)
        exact linkRes_none hf ..
    · exact linkRes_of_ne hsec ..

/-- **the link update after a store operation keeps the invariant**: nothing changed, or rules elsewhere, or the rule
set of the role definition, where `Casbin.incr_synced` applies.  `hlen`: an added rule has a field for every place. -/
theorem gsyncOn_linkRes {s : Store} {rm : RoleMgr String} (h : GSyncOn s.g rm) {m : Mgmt} (hm : m.Std)
    (hlen : m.ins = true → m.sec = "g" → ∀ d, s.g = [d] → WFRules d.arity (m.step s).2.2) :
    GSyncOn (m.step s).1.g (linkRes rm true (m.step s).1 (m.step s).2.1 m.sec m.pt m.ins (m.step s).2.2).1 := by
  obtain ⟨d, hg, hd⟩ := h
  have hpol : s.getPolicy "g" d.key = d.policy := Store.getPolicy_of_find ((find_g_single s d hg _).trans (if_pos rfl))
  have hg' := g_single_of hg (hm.map s _ (fun _ _ => rfl) "g")
  rw [hm.getPolicy, hpol] at hg'
  by_cases hhit : (m.step s).2.1 = true ∧ m.sec = "g" ∧ m.pt = d.key
  · rw [if_pos hhit] at hg'
    rw [linkRes_single rm hg', if_pos hhit]
    obtain ⟨hc, hsec, hpt⟩ := hhit
    have hmem := hm.fn_mem s hc
    rw [hsec, hpt, hpol] at hmem
    obtain ⟨rm', h1, h2⟩ := incr_synced hd m.ins _ _ (fun hi => hlen hi hsec d hg) hmem
    rw [h1]
    exact ⟨_, hg', h2⟩
  · rw [if_neg hhit] at hg'
    rw [linkRes_single rm hg', if_neg hhit]
    exact ⟨d, hg', hd⟩

/-- **any of the five management calls**, on `p` or `g` rules, auto-save on or off, whatever the adapter answers: a
stopped call moves nothing the invariant reads, otherwise `mgmtGo` runs on the same store and graph -/
theorem gsync_mgmt (e : Enforcer) (h : GSync e) (hb : e.autoBuild = true) (m : Mgmt) (hm : m.Std)
    (hok : m.ins = true → m.sec = "g" → ∀ d, e.store.g = [d] → WFRules d.arity (m.step e.store).2.2) :
    GSync (e.mgmt m).1 ∧ (e.mgmt m).1.autoBuild = true := by
  rcases mgmt_cases e m with ⟨res, _, _, h1, _⟩ | ⟨a, _, _, h1⟩
  · rw [h1]; exact ⟨h, hb⟩
  · rw [h1, mgmtGo_eq]
    refine ⟨?_, hb⟩
    show GSyncOn _ (linkRes e.rm e.autoBuild _ _ _ _ _ _).1
    rw [hb]
    exact gsyncOn_linkRes h hm hok

/-- `add_policies_internal("g", key, rules)`: all-or-nothing, a rule listed twice stored once (`hs` is not needed:
`gsync_mgmt` covers auto-save on) -/
theorem gsync_addMany_g (e : Enforcer) (h : GSync e) (hs : e.autoSave = false) (hb : e.autoBuild = true)
    (pt : String) (rules : List Rule) (hlen : ∀ d, e.store.g = [d] → ∀ r ∈ rules, d.arity ≤ r.length) :
    GSync (e.addPolicies "g" pt rules).1 := by
  rw [Enforcer.addPolicies_eq]
  exact (gsync_mgmt e h hb _ (.addMany "g" pt rules) (fun _ _ => hlen)).1

/-- `remove_policies_internal("g", key, rules)`: all-or-nothing, a rule listed twice removed once; a link stays while a
remaining rule implies it (`hs` is not needed) -/
theorem gsync_removeMany_g (e : Enforcer) (h : GSync e) (hs : e.autoSave = false) (hb : e.autoBuild = true)
    (pt : String) (rules : List Rule) :
    GSync (e.removePolicies "g" pt rules).1 := by
  rw [Enforcer.removePolicies_eq]
  exact (gsync_mgmt e h hb _ (.removeMany "g" pt rules) nofun).1

/-- `remove_filtered_policy_internal("g", key, index, values)`, an empty filter or one selecting nothing included (`hs` is
not needed) -/
theorem gsync_removeFiltered_g (e : Enforcer) (h : GSync e) (hs : e.autoSave = false) (hb : e.autoBuild = true)
    (pt : String) (idx : Nat) (vals : List String) :
    GSync (e.removeFiltered "g" pt idx vals).1 := by
  rw [Enforcer.removeFiltered_eq]
  exact (gsync_mgmt e h hb _ (.removeFiltered "g" pt idx vals) nofun).1

/-! ### Rebuilds: load, clear, set_model, set_role_manager -/

/-- **an explicit `build_role_links` at any point of a history succeeds and leaves every link where it was**, so (by
`same_links_same_answers`) every role query and `g` test answers as before below the depth limit -/
theorem rebuild_after_history (e : Enforcer) (h : GSync e) :
    ∃ e', e.buildRoleLinks = (e', none) ∧ GSync e' ∧
      ∀ dd x y, (x, y) ∈ (e'.rm.graph dd).edges ↔ (x, y) ∈ (e.rm.graph dd).edges := by
  obtain ⟨h1, h2⟩ := gsyncOn_rebuild h.linkable e.rm
  refine ⟨e.buildRoleLinks.1, Prod.ext rfl h1, h2, fun dd x y => ?_⟩
  obtain ⟨d, hg, _, _, hs, _⟩ := h
  obtain ⟨d', hg', _, _, hs', _⟩ := h2
  cases hg.symm.trans hg'
  exact (hs' dd x y).trans (hs dd x y).symm

theorem gsync_build (e : Enforcer) (h : GSync e) : GSync e.buildRoleLinks.1 := (gsyncOn_rebuild h.linkable e.rm).2

/-- **`load_policy` / `load_filtered_policy` keep the invariant whatever the adapter delivers**, and establish it from any
graph when the stored grouping rules can be linked: the graph is rebuilt from the new rules, or (adapter failure, partial
delivery, a delivered grouping rule too short) from the previous rules, which come back -/
theorem gsync_finishLoad (e : Enforcer) (h : Linkable e.store.g) (hb : e.autoBuild = true)
    (a : AdapterSt) (s : Store) (ok : Option Unit) (hs : s.gArities = e.store.gArities) :
    GSync (e.finishLoad e.store a s ok).1 ∧ (e.finishLoad e.store a s ok).1.autoSave = e.autoSave ∧
    (e.finishLoad e.store a s ok).1.autoBuild = true := by
  rw [finishLoad_eq]
  split
  · rename_i hnone
    -- no error: everything delivered and linked
    cases ok with
    | none => cases hnone
    | some u =>
      have hl : e.loadLinks s (some u) = buildRoleLinks e.rm s.g := relink_on hb _ _
      rw [hl] at hnone ⊢
      exact ⟨gsyncOn_built (h.oneRole.of_gArities hs) e.rm hnone, rfl, hb⟩
  · exact ⟨by rw [relink_on hb]; exact (gsyncOn_rebuild h _).2, rfl, hb⟩

/-- the general form for `load_policy`: from `Linkable` alone (any graph), with the switches it keeps; `gsync_load_pre` and
`gsync_load` are its cases -/
theorem gsync_loadPolicy (e : Enforcer) (h : Linkable e.store.g) (hb : e.autoBuild = true) :
    GSync e.loadPolicy.1 ∧ e.loadPolicy.1.autoSave = e.autoSave ∧ e.loadPolicy.1.autoBuild = true :=
  gsync_finishLoad e h hb _ _ _ ((AdapterSt.load_gArities _ _).trans (Store.clear_gArities _))

/-- from any graph: every path of a load ends in a full rebuild -/
theorem gsync_load_pre (e : Enforcer) (d : PolDef) (hg : e.store.g = [d]) (ha : d.arity = 2 ∨ d.arity = 3)
    (hwf : WFRules d.arity d.policy) (hb : e.autoBuild = true) : GSync e.loadPolicy.1 :=
  (gsync_loadPolicy e ⟨d, hg, ha, hwf⟩ hb).1

theorem gsync_load (e : Enforcer) (h : GSync e) (hb : e.autoBuild = true) : GSync e.loadPolicy.1 :=
  (gsync_loadPolicy e h.linkable hb).1

theorem gsync_loadFilteredPolicy (e : Enforcer) (h : Linkable e.store.g) (hb : e.autoBuild = true) (fp fg : List String) :
    GSync (e.loadFilteredPolicy fp fg).1 ∧ (e.loadFilteredPolicy fp fg).1.autoSave = e.autoSave ∧
    (e.loadFilteredPolicy fp fg).1.autoBuild = true :=
  gsync_finishLoad e h hb _ _ _ ((AdapterSt.loadFiltered_gArities _ _ fp fg).trans (Store.clear_gArities _))

theorem gsync_loadFiltered (e : Enforcer) (h : GSync e) (hb : e.autoBuild = true) (fp fg : List String) :
    GSync (e.loadFilteredPolicy fp fg).1 := (gsync_loadFilteredPolicy e h.linkable hb fp fg).1

/-- `clear_policy`, auto-save on too: the adapter fails (nothing is cleared) or rules and links go together -/
theorem gsync_clear_any (e : Enforcer) (h : GSync e) (hb : e.autoBuild = true) :
    GSync e.clearPolicy.1 ∧ e.clearPolicy.1.autoBuild = true := by
  rcases clearPolicy_cases e with ⟨_, h1⟩ | ⟨a, _, _, h1⟩
  · rw [h1]; exact ⟨h, hb⟩
  · rw [h1, clearGo_eq, relink_on (e := { e with adapter := a }) hb]
    exact ⟨(gsyncOn_rebuild h.linkable.oneRole.cleared e.rm).2, hb⟩

/-- `hs` is not needed: `gsync_clear_any` -/
theorem gsync_clear (e : Enforcer) (h : GSync e) (hs : e.autoSave = false) (hb : e.autoBuild = true) :
    GSync e.clearPolicy.1 := (gsync_clear_any e h hb).1

theorem registerG_one {g : List PolDef} (h : OneRole g) (gfuncs : List (String × Nat)) :
    ∃ gf, registerG gfuncs g = some gf := by
  obtain ⟨d, rfl, ha⟩ := h
  unfold registerG
  rw [if_pos (by rcases ha with h | h <;> simp [h])]
  exact ⟨_, rfl⟩

/-- `set_model` to one role definition of two or three places (empty policy, role functions registered, reload through
the adapter): whatever the role graph held before and whatever the adapter delivers -/
theorem gsync_setModel (e : Enforcer) (hb : e.autoBuild = true) (defs : Defs) (store : Store) (d : PolDef)
    (hg : store.g = [d]) (ha : d.arity = 2 ∨ d.arity = 3) :
    GSync (e.setModel defs store).1 ∧ (e.setModel defs store).1.autoSave = e.autoSave ∧
    (e.setModel defs store).1.autoBuild = true := by
  have hc : Linkable store.clear.g := OneRole.cleared ⟨d, hg, ha⟩
  obtain ⟨gf, hreg⟩ := registerG_one hc.oneRole e.gfuncs
  unfold Enforcer.setModel
  dsimp only
  rw [hreg]
  exact gsync_loadPolicy ({ e with defs := defs, store := store.clear, gfuncs := gf } : Enforcer) hc hb

/-- `set_role_manager` with any manager (fresh, kept from earlier, the installed one edited by hand): it is emptied and
rebuilt from the stored grouping rules -/
theorem gsync_setRm (e : Enforcer) (h : GSync e) (hb : e.autoBuild = true) (rm0 : RoleMgr String) :
    GSync (e.setRoleManagerWith rm0).1 ∧ (e.setRoleManagerWith rm0).1.autoSave = e.autoSave ∧
    (e.setRoleManagerWith rm0).1.autoBuild = true ∧ (e.setRoleManagerWith rm0).1.store = e.store := by
  obtain ⟨gf, hreg⟩ := registerG_one h.linkable.oneRole e.gfuncs
  rw [setRoleManagerWith_eq, hreg, relink_on hb]
  exact ⟨(gsyncOn_rebuild h.linkable rm0).2, rfl, hb, rfl⟩

/-! ### Histories -/

/-- the five internal management calls, on `p` and `g` rules, and the calls that rebuild -/
inductive GOp where
  | add (sec pt : String) (rule : Rule)
  | remove (sec pt : String) (rule : Rule)
  | addMany (sec pt : String) (rules : List Rule)
  | removeMany (sec pt : String) (rules : List Rule)
  | removeFiltered (sec pt : String) (idx : Nat) (vals : List String)
  | load
  | loadFiltered (fp fg : List String)
  | clear
  | build
  | setRm (rm0 : RoleMgr String)
  | setModel (defs : Defs) (store : Store)
  | setAdapter (a : AdapterSt)

def GOp.apply (e : Enforcer) : GOp → Enforcer
  | .add sec pt rule => (e.addPolicy sec pt rule).1
  | .remove sec pt rule => (e.removePolicy sec pt rule).1
  | .addMany sec pt rules => (e.addPolicies sec pt rules).1
  | .removeMany sec pt rules => (e.removePolicies sec pt rules).1
  | .removeFiltered sec pt idx vals => (e.removeFiltered sec pt idx vals).1
  | .load => e.loadPolicy.1
  | .loadFiltered fp fg => (e.loadFilteredPolicy fp fg).1
  | .clear => e.clearPolicy.1
  | .build => e.buildRoleLinks.1
  | .setRm rm0 => (e.setRoleManagerWith rm0).1
  | .setModel defs store => (e.setModel defs store).1
  | .setAdapter a => (e.setAdapter a).1

/-- the calls the invariant is stated for: section `p` or `g`; an added grouping rule has a field for every place -/
def GOp.Ok (e : Enforcer) : GOp → Prop
  | .add sec _ rule => sec = "p" ∨ (sec = "g" ∧ ∀ d, e.store.g = [d] → d.arity ≤ rule.length)
  | .remove sec _ _ => sec = "p" ∨ sec = "g"
  | .addMany sec _ rules => sec = "p" ∨ (sec = "g" ∧ ∀ d, e.store.g = [d] → ∀ r ∈ rules, d.arity ≤ r.length)
  | .removeMany sec _ _ => sec = "p" ∨ sec = "g"
  | .removeFiltered sec _ _ _ => sec = "p" ∨ sec = "g"
  | .load => True
  | .loadFiltered _ _ => True
  | .clear => True
  | .build => True
  | .setRm _ => True
  | .setModel _ store => ∃ d, store.g = [d] ∧ (d.arity = 2 ∨ d.arity = 3)
  | .setAdapter _ => True

/-- one step of `gsync_history_any`: each of the twelve calls keeps `GSync` and leaves auto-build on -/
theorem gstep_any (e : Enforcer) (h : GSync e) (hb : e.autoBuild = true) (op : GOp) (hok : op.Ok e) :
    GSync (op.apply e) ∧ (op.apply e).autoBuild = true := by
  -- what `GOp.Ok` says of a call on grouping rules
  have onG {sec : String} {P : Prop} (h : sec = "p" ∨ (sec = "g" ∧ P)) (hsec : sec = "g") : P :=
    h.elim (fun hp => absurd (hp.symm.trans hsec) (by decide)) And.right
  cases op with
  | add sec pt rule =>
    show GSync (e.addPolicy sec pt rule).1 ∧ (e.addPolicy sec pt rule).1.autoBuild = true
    rw [Enforcer.addPolicy_eq]
    refine gsync_mgmt e h hb _ (.add sec pt rule) fun _ hsec d hd r hr => ?_
    rw [List.mem_singleton.mp hr]
    exact onG hok hsec d hd
  | remove sec pt rule =>
    show GSync (e.removePolicy sec pt rule).1 ∧ (e.removePolicy sec pt rule).1.autoBuild = true
    rw [Enforcer.removePolicy_eq]
    exact gsync_mgmt e h hb _ (.remove sec pt rule) nofun
  | addMany sec pt rules =>
    show GSync (e.addPolicies sec pt rules).1 ∧ (e.addPolicies sec pt rules).1.autoBuild = true
    rw [Enforcer.addPolicies_eq]
    exact gsync_mgmt e h hb _ (.addMany sec pt rules) fun _ hsec => onG hok hsec
  | removeMany sec pt rules =>
    show GSync (e.removePolicies sec pt rules).1 ∧ (e.removePolicies sec pt rules).1.autoBuild = true
    rw [Enforcer.removePolicies_eq]
    exact gsync_mgmt e h hb _ (.removeMany sec pt rules) nofun
  | removeFiltered sec pt idx vals =>
    show GSync (e.removeFiltered sec pt idx vals).1 ∧ (e.removeFiltered sec pt idx vals).1.autoBuild = true
    rw [Enforcer.removeFiltered_eq]
    exact gsync_mgmt e h hb _ (.removeFiltered sec pt idx vals) nofun
  | load => exact ⟨(gsync_loadPolicy e h.linkable hb).1, (gsync_loadPolicy e h.linkable hb).2.2⟩
  | loadFiltered fp fg =>
    exact ⟨(gsync_loadFilteredPolicy e h.linkable hb fp fg).1, (gsync_loadFilteredPolicy e h.linkable hb fp fg).2.2⟩
  | clear => exact gsync_clear_any e h hb
  | build => exact ⟨gsync_build e h, hb⟩
  | setRm rm0 => exact ⟨(gsync_setRm e h hb rm0).1, (gsync_setRm e h hb rm0).2.2.1⟩
  | setModel defs store =>
    obtain ⟨d, hg, ha⟩ := hok
    exact ⟨(gsync_setModel e hb defs store d hg ha).1, (gsync_setModel e hb defs store d hg ha).2.2⟩
  | setAdapter a =>
    have := gsync_loadPolicy ({ e with adapter := a } : Enforcer) h.linkable hb
    exact ⟨this.1, this.2.2⟩

/-- side conditions along a history (`P` of every call in the state it is made in), call by call: discharge with
`along_cons.mp ⟨first, along_cons.mp ⟨…, along_nil⟩⟩` (see the examples at the end) -/
theorem along_nil {σ ι : Type} {step : σ → ι → σ} {P : σ → ι → Prop} {s : σ} :
    ∀ (pre : List ι) (op : ι) (post : List ι), [] = pre ++ op :: post → P (pre.foldl step s) op := by
  intro pre op post h; cases pre <;> cases h

theorem along_cons {σ ι : Type} {step : σ → ι → σ} {P : σ → ι → Prop} {s : σ} {op : ι} {ops : List ι} :
    (P s op ∧ ∀ (pre : List ι) (op' : ι) (post : List ι), ops = pre ++ op' :: post → P (pre.foldl step (step s op)) op') ↔
    ∀ (pre : List ι) (op' : ι) (post : List ι), op :: ops = pre ++ op' :: post → P (pre.foldl step s) op' := by
  constructor
  · rintro ⟨h0, h⟩ pre op' post heq
    cases pre with
    | nil => cases heq; exact h0
    | cons p pre => cases heq; exact h pre op' post rfl
  · exact fun h => ⟨h [] op ops rfl, fun pre op' post heq => h (op :: pre) op' post (by rw [heq]; rfl)⟩

/-- **the invariant over every history of the twelve kinds of call, auto-save on or off, whatever the adapter answers**
(accepts, vetoes, fails) -/
theorem gsync_history_any (ops : List GOp) (e : Enforcer) (h : GSync e) (hb : e.autoBuild = true)
    (hok : ∀ (pre : List GOp) (op : GOp) (post : List GOp), ops = pre ++ op :: post → op.Ok (pre.foldl GOp.apply e)) :
    GSync (ops.foldl GOp.apply e) := by
  induction ops generalizing e with
  | nil => exact h
  | cons op ops ih =>
    obtain ⟨h0, hrest⟩ := (along_cons (P := fun e op => GOp.Ok e op)).mpr hok
    obtain ⟨g1, g2⟩ := gstep_any e h hb op h0
    exact ih _ g1 g2 hrest

/-- **the graph reflects the stored grouping rules after every history** of the calls of `GOp`, with auto-build on and
auto-save off (on or off: `gsync_history_any`) -/
theorem gsync_history (ops : List GOp) (e : Enforcer) (h : GSync e) (hs : e.autoSave = false) (hb : e.autoBuild = true)
    (hok : ∀ (pre : List GOp) (op : GOp) (post : List GOp), ops = pre ++ op :: post → op.Ok (pre.foldl GOp.apply e)) :
    GSync (ops.foldl GOp.apply e) := gsync_history_any ops e h hb hok

/-! ### Construction; non-vacuity -/

/-- **construction over a filtered adapter** (the model handed in already holds rules, regression for F22):
the constructor does not load, keeps those rules and builds their links -/
theorem newPrefilled_gsync (defs : Defs) (store : Store) (a : AdapterSt) (hf : a.filtered = true) (d : PolDef)
    (hg : store.g = [d]) (ha : d.arity = 2 ∨ d.arity = 3) (hwf : WFRules d.arity d.policy)
    (e : Enforcer) (r : Res) (h : Enforcer.newPrefilled defs store a = some (e, r)) :
    r = .unit ∧ e.store = store ∧ GSync e := by
  obtain ⟨hnone, hsync⟩ := gsyncOn_rebuild ⟨d, hg, ha, hwf⟩ (RoleMgr.new 10)
  unfold Enforcer.newPrefilled Enforcer.newRaw at h
  cases hreg : registerG [] store.g with
  | none => rw [hreg] at h; cases h
  | some gf =>
    simp only [hreg, hf, if_true, Enforcer.buildRoleLinks, hnone] at h
    cases h
    exact ⟨rfl, rfl, hsync⟩

def demoDef (pol : List Rule) : PolDef := { key := "g", tokens := [], arity := 2, policy := pol }

/-- two rules implying one link; removing one keeps it (regression for F14) -/
example : ((buildRoleLinks (RoleMgr.new 10) [demoDef [["alice", "admin", "x"], ["alice", "admin", "y"]]]).1.hasLink
    "alice" "admin" "DEFAULT") = true := by decide +kernel

example :
    let rm := (buildRoleLinks (RoleMgr.new 10) [demoDef [["alice", "admin", "x"], ["alice", "admin", "y"]]]).1
    ((buildIncremental rm (demoDef [["alice", "admin", "y"]]) false [["alice", "admin", "x"]]).1.hasLink
      "alice" "admin" "DEFAULT") = true := by decide +kernel

/-- a self-link rule can be removed without error (regression for the delete_link fix) -/
example :
    let rm := (buildRoleLinks (RoleMgr.new 10) [demoDef [["a", "a"], ["a", "b"]]]).1
    (buildIncremental rm (demoDef []) false [["a", "a"], ["a", "b"]]).2 = none := by decide +kernel

/-- non-vacuity: a fresh RBAC enforcer satisfies the invariant, and a history (add a link, add a second rule implying it,
remove the first, add a `p` rule) meets the side conditions -/
def demoEnf : Enforcer :=
  { defs := ⟨[], [], []⟩, store := ⟨[{ key := "p", tokens := [], arity := 0, policy := [] }], [demoDef []]⟩,
    adapter := AdapterSt.mk0 .null, rm := (RoleMgr.new 10).clear, enabled := true, autoSave := false, autoBuild := true,
    autoNotify := false, callbacks := 0, hasWatcher := false, gfuncs := [], userFns := [], log := [] }

theorem demo_gsync : GSync demoEnf := by
  refine ⟨demoDef [], rfl, Or.inl rfl, ?_, synced_clear 2 _, WF_clear _⟩
  intro r hr; cases hr

example : GSync ([GOp.add "g" "g" ["alice", "admin"], .add "g" "g" ["alice", "admin", "x"], .remove "g" "g" ["alice", "admin"],
    .add "p" "p" ["admin", "d", "read"]].foldl GOp.apply demoEnf) := by
  apply gsync_history _ _ demo_gsync rfl rfl
  have h1 : (GOp.apply demoEnf (GOp.add "g" "g" ["alice", "admin"])).store.g = [demoDef [["alice", "admin"]]] := by
    decide +kernel
  refine along_cons.mp ⟨Or.inr ⟨rfl, fun d hd => ?_⟩, along_cons.mp ⟨Or.inr ⟨rfl, fun d hd => ?_⟩,
    along_cons.mp ⟨Or.inr rfl, along_cons.mp ⟨Or.inl rfl, along_nil⟩⟩⟩⟩
  · cases hd; decide
  · cases h1.symm.trans hd; decide

/-- the reconfiguration calls too: a hand-edited manager handed back, a model swap, an adapter swap -/
example : GSync ([GOp.setRm ((RoleMgr.new 10).addLink "stray" "admin" "DEFAULT"),
    .setModel ⟨[], [], []⟩ ⟨[], [demoDef [["x", "y"]]]⟩, .setAdapter (AdapterSt.mk0 .memory), .clear].foldl GOp.apply demoEnf) :=
  gsync_history _ _ demo_gsync rfl rfl (along_cons.mp ⟨True.intro, along_cons.mp ⟨⟨demoDef [["x", "y"]], rfl, Or.inl rfl⟩,
    along_cons.mp ⟨True.intro, along_cons.mp ⟨True.intro, along_nil⟩⟩⟩⟩)

def demoEnfOn : Enforcer := { demoEnf with autoSave := true, adapter := AdapterSt.mk0 .memory }
example : GSync ([GOp.add "g" "g" ["alice", "admin"], .clear].foldl GOp.apply demoEnfOn) :=
  gsync_history_any _ demoEnfOn demo_gsync rfl
    (along_cons.mp ⟨Or.inr ⟨rfl, fun d hd => by cases hd; decide⟩, along_cons.mp ⟨True.intro, along_nil⟩⟩)

end Casbin.C05
