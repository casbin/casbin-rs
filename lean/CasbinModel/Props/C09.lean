import CasbinModel.Lemmas.TextSave
import CasbinModel.Lemmas.Csv
import CasbinModel.Lemmas.Mirror
import CasbinModel.Lemmas.StoreStep
/-!
# C09 — Stored policy and in-memory policy stay identical

Text adapters: what `save_policy` writes, with the file adapter's `","` or the string adapter's `", "` separator, reads
back as the stored rules (`parse_render`, `save_then_load_text`), against the model of `parse_csv_line` that follows the
crate's regex iteration (`find_iter`).  The format carries values that are `SafeField` (non-empty, no double quote, no
leading or trailing blank; commas allowed, quoted on save) and on one line.

Memory adapter: with auto-save on, every management call, taken or vetoed, keeps the adapter's lines equal to the store
per policy type (`Mirror`; `memOk_step`); `save_policy` establishes that from any lines (`save_establishes_mirror`); a
reload from lines that mirror a duplicate-free store reproduces it, rule for rule and in order (`reload_is_identity`);
all of it over whole histories with `save_policy` interleaved (`SaveOk`, `mirror_history_with_save`,
`reload_after_history_with_save`); `clear_empties_adapter`.

The reload theorems are stated of `loadRecords` on the cleared store: what `AdapterSt.load` runs when no fault is pending
(Enforcer.lean:229-245).
-/
namespace Casbin.C09
open Casbin

/-! ## CSV round trip -/

/-- the separators the bundled adapters write: a comma followed by blanks -/
def IsSep (sep : List Char) : Prop := ∃ sws, sep = ',' :: sws ∧ ∀ c ∈ sws, isWs c = true
theorem isSep_file : IsSep [','] := ⟨[], rfl, fun _ h => nomatch h⟩
theorem isSep_string : IsSep [',', ' '] := ⟨[' '], rfl, fun c h => by rw [List.mem_singleton.1 h]; rfl⟩

/-- **CSV round trip**: `parse_csv_line (render ptype fields) = [ptype, fields…]`. -/
theorem parse_render (sep ptype : List Char) (fields : List (List Char)) (hsep : IsSep sep)
    (hpt : SafeField ptype) (hptc : ',' ∉ ptype) (hpth : ptype.head? ≠ some '#')
    (hfs : ∀ f ∈ fields, SafeField f) (hne : fields ≠ []) :
    parseCsvLine (renderLine sep ptype fields) = some (ptype :: fields) := by
  obtain ⟨sws, rfl, hsws⟩ := hsep
  obtain ⟨f1, frest, rfl⟩ := List.exists_cons_of_ne_nil hne
  -- the line is `ptype`, then `,col` per field: the first column padded with one blank whatever the separator (`renderLine`
  -- writes `ptype, f1`), the others with the separator's blanks.  The columns are `GoodCol`s, the line is `Tight` and starts
  -- no comment, so `parseCsvLine_cols` returns them trimmed and unquoted: the fields.
  have hline : renderLine (',' :: sws) ptype (f1 :: frest) =
      ptype ++ (rawCol [' '] f1 :: frest.map (rawCol sws)).flatMap (',' :: ·) := by
    simp [renderLine, joinWith_cons, rawCol, List.flatMap_map]
  have hcols : ∀ x ∈ rawCol [' '] f1 :: frest.map (rawCol sws),
      ∃ ws f, x = rawCol ws f ∧ (∀ c ∈ ws, isWs c = true) ∧ SafeField f := by
    intro x hx
    rcases List.mem_cons.mp hx with rfl | hx
    · exact ⟨_, _, rfl, by decide, hfs f1 List.mem_cons_self⟩
    · obtain ⟨f, hf, rfl⟩ := List.mem_map.mp hx
      exact ⟨_, _, rfl, hsws, hfs f (List.mem_cons_of_mem _ hf)⟩
  have hgood : ∀ x ∈ ptype :: rawCol [' '] f1 :: frest.map (rawCol sws), GoodCol x := by
    intro x hx
    rcases List.mem_cons.mp hx with rfl | hx
    · exact List.append_nil x ▸ goodCol_bare (ws1 := []) (List.forall_mem_nil _) (List.forall_mem_nil _) hpt hptc
    · obtain ⟨ws, f, rfl, hws, hf⟩ := hcols x hx
      exact goodCol_rawCol hws hf
  have ht : Tight (ptype ++ (rawCol [' '] f1 :: frest.map (rawCol sws)).flatMap (',' :: ·)) :=
    tight_line hpt.tight fun x hx => by
      obtain ⟨ws, f, rfl, _, hf⟩ := hcols x hx
      exact ⟨ws, _, rfl, tight_renderField hf⟩
  have hvals : (ptype :: rawCol [' '] f1 :: frest.map (rawCol sws)).map (fun c => unquote (trim c)) = ptype :: f1 :: frest := by
    rw [List.map_cons, List.map_cons, List.map_map, trim_rawCol (ws := [' ']) (by decide) (hfs f1 List.mem_cons_self)]
    have hv0 := List.append_nil ptype ▸ unquote_trim_bare (ws1 := []) (List.forall_mem_nil _) (List.forall_mem_nil _) hpt
    rw [hv0, List.map_congr_left (g := id) fun f hf => by
      rw [Function.comp_apply]; exact trim_rawCol hsws (hfs f (List.mem_cons_of_mem _ hf)), List.map_id]
  have hh : (ptype ++ (rawCol [' '] f1 :: frest.map (rawCol sws)).flatMap (',' :: ·)).head? ≠ some '#' := by
    obtain ⟨p0, pt, rfl⟩ := List.exists_cons_of_ne_nil hpt.ne
    exact hpth
  rw [hline, parseCsvLine_cols _ _ hgood ht hh, hvals]

/-! ## Memory adapter: the mirror -/

theorem reload_is_identity (e : Enforcer) (hk : e.adapter.kind = .memory) (hm : Mirror e) (hw : e.store.WF)
    (sec pt : String) (hex : (e.store.find sec pt).isSome = true) :
    (loadRecords e.store.clear e.adapter.records).getPolicy sec pt = e.store.getPolicy sec pt := by
  rw [records_memory _ hk, getPolicy_loadRecords_clear hex (by rw [hm sec pt hex]; exact hw sec pt), hm sec pt hex]

/-- the configuration the property speaks about (`plan = []`: no injected fault pending) -/
def MemOk (e : Enforcer) : Prop :=
  e.adapter.kind = .memory ∧ e.adapter.plan = [] ∧ e.autoSave = true ∧ Mirror e

/-- the five internal management operations every public mutation goes through -/
inductive SOp where
  | add (sec pt : String) (rule : Rule)
  | remove (sec pt : String) (rule : Rule)
  | addMany (sec pt : String) (rules : List Rule)
  | removeMany (sec pt : String) (rules : List Rule)
  | removeFiltered (sec pt : String) (idx : Nat) (vals : List String)

def SOp.apply (e : Enforcer) : SOp → Enforcer
  | .add sec pt rule => (e.addPolicy sec pt rule).1
  | .remove sec pt rule => (e.removePolicy sec pt rule).1
  | .addMany sec pt rules => (e.addPolicies sec pt rules).1
  | .removeMany sec pt rules => (e.removePolicies sec pt rules).1
  | .removeFiltered sec pt idx vals => (e.removeFiltered sec pt idx vals).1

def SOp.desc : SOp → Mgmt
  | .add sec pt rule => .add sec pt rule
  | .remove sec pt rule => .remove sec pt rule
  | .addMany sec pt rules => .addMany sec pt rules
  | .removeMany sec pt rules => .removeMany sec pt rules
  | .removeFiltered sec pt idx vals => .removeFiltered sec pt idx vals

theorem SOp.desc_std (op : SOp) : op.desc.Std := by cases op <;> constructor

theorem SOp.apply_eq (e : Enforcer) (op : SOp) : op.apply e = (e.mgmt op.desc).1 := by
  cases op with
  | add sec pt rule => exact congrArg Prod.fst (e.addPolicy_eq sec pt rule)
  | remove sec pt rule => exact congrArg Prod.fst (e.removePolicy_eq sec pt rule)
  | addMany sec pt rules => exact congrArg Prod.fst (e.addPolicies_eq sec pt rules)
  | removeMany sec pt rules => exact congrArg Prod.fst (e.removePolicies_eq sec pt rules)
  | removeFiltered sec pt idx vals => exact congrArg Prod.fst (e.removeFiltered_eq sec pt idx vals)

theorem adapter_plan_nil (a : AdapterSt) (hp : a.plan = []) : ({ a with plan := [] } : AdapterSt) = a := by
  cases a; cases hp; rfl

/-- what the memory adapter does to its lines when it takes the call -/
def SOp.lineFn : SOp → List Rule → List Rule
  | .add sec pt rule => fun ls => (OrdSet.add ls (tag sec pt rule)).1
  | .remove sec pt rule => fun ls => (OrdSet.remove ls (tag sec pt rule)).1
  | .addMany sec pt rules => fun ls => OrdSet.addAll ls (rules.map (tag sec pt))
  | .removeMany sec pt rules => fun ls => OrdSet.removeAll ls (rules.map (tag sec pt))
  | .removeFiltered sec pt idx vals => fun ls => ls.filter (fun l => !lineHit sec pt idx vals l)

theorem proj_lineFn (op : SOp) (sec' pt' : String) (lines : List Rule) :
    proj sec' pt' (op.lineFn lines) =
      if op.desc.sec = sec' ∧ op.desc.pt = pt' then op.desc.fn (proj sec' pt' lines) else proj sec' pt' lines := by
  cases op with
  | add sec pt rule => exact proj_add sec pt sec' pt' rule lines
  | remove sec pt rule => exact proj_remove sec pt sec' pt' rule lines
  | addMany sec pt rules => exact proj_addAll sec pt sec' pt' rules lines
  | removeMany sec pt rules => exact proj_removeAll sec pt sec' pt' rules lines
  | removeFiltered sec pt idx vals => exact proj_filter sec pt sec' pt' idx vals lines

/-- the condition, on the rule list named, under which a call is taken -/
def SOp.taken : SOp → List Rule → Prop
  | .add _ _ rule => fun pol => rule ∉ pol
  | .remove _ _ rule => fun pol => rule ∈ pol
  | .addMany _ _ rules => fun pol => ∀ r ∈ rules, r ∉ pol
  | .removeMany _ _ rules => fun pol => ∀ r ∈ rules, r ∈ pol
  | .removeFiltered _ _ idx vals => fun pol => vals ≠ [] ∧ ∃ r ∈ pol, filterMatch idx vals r = true

/-- what the adapter takes, a store that agrees with it on the list named reports as a change -/
theorem flag_of_taken (s : Store) (op : SOp) (hex : (s.find op.desc.sec op.desc.pt).isSome = true)
    (h : op.taken (s.getPolicy op.desc.sec op.desc.pt)) : (op.desc.step s).2.1 = true := by
  cases op with
  | add sec pt rule => exact (s.addPolicy_snd sec pt rule).2 ⟨hex, h⟩
  | remove sec pt rule => exact (s.removePolicy_snd sec pt rule).2 h
  | addMany sec pt rules => exact (s.addPolicies_snd sec pt rules).2 ⟨hex, h⟩
  | removeMany sec pt rules => exact (s.removePolicies_snd sec pt rules).2 ⟨hex, h⟩
  | removeFiltered sec pt idx vals => exact (s.removeFiltered_flag sec pt idx vals).2 h

/-- the memory adapter's part of a call: a veto, or `lineFn` -/
theorem mem_cases (a : AdapterSt) (op : SOp) :
    op.desc.mem a = (a, some false) ∨
    op.desc.mem a = ({ a with lines := op.lineFn a.lines }, some true) ∧ op.taken (proj op.desc.sec op.desc.pt a.lines) := by
  cases op with
  | add sec pt rule =>
    dsimp only [SOp.desc, Mgmt.add]
    by_cases h : tag sec pt rule ∈ a.lines
    · rw [OrdSet.add_present h, Bool.eq_false_iff.2 fun hb => (OrdSet.add_flag ..).1 hb h]; exact .inl rfl
    · rw [(OrdSet.add_flag ..).2 h]; exact .inr ⟨rfl, fun hm => h ((mem_proj ..).1 hm)⟩
  | remove sec pt rule =>
    dsimp only [SOp.desc, Mgmt.remove]
    by_cases h : tag sec pt rule ∈ a.lines
    · rw [(OrdSet.remove_flag ..).2 h]; exact .inr ⟨rfl, (mem_proj ..).2 h⟩
    · rw [OrdSet.remove_absent h, Bool.eq_false_iff.2 fun hb => h ((OrdSet.remove_flag ..).1 hb)]; exact .inl rfl
  | addMany sec pt rules =>
    by_cases h : ((rules.map (tag sec pt)).any fun l => decide (l ∈ a.lines)) = true
    · exact .inl (if_pos h)
    · exact .inr ⟨if_neg h, fun r hr hm =>
        h (List.any_eq_true.2 ⟨_, List.mem_map_of_mem hr, decide_eq_true ((mem_proj ..).1 hm)⟩)⟩
  | removeMany sec pt rules =>
    by_cases h : ((rules.map (tag sec pt)).any fun l => decide (l ∉ a.lines)) = true
    · exact .inl (if_pos h)
    · exact .inr ⟨if_neg h, fun r hr => (mem_proj ..).2 (Classical.not_not.1 fun hn =>
        h (List.any_eq_true.2 ⟨_, List.mem_map_of_mem hr, decide_eq_true hn⟩))⟩
  | removeFiltered sec pt idx vals =>
    by_cases hv : vals.isEmpty = true
    · exact .inl (if_pos hv)
    · dsimp only [SOp.desc, Mgmt.removeFiltered]
      rw [if_neg hv]
      -- the model's local `hit` is `lineHit` by `rfl`
      show (_, some (a.lines.any (lineHit sec pt idx vals))) = _ ∨ (_, some (a.lines.any (lineHit sec pt idx vals))) = _ ∧ _
      cases h : a.lines.any (lineHit sec pt idx vals) with
      | true => exact .inr ⟨rfl, fun e => hv (e ▸ rfl), by rwa [any_lineHit, List.any_eq_true] at h⟩
      | false =>
        -- nothing is hit: the filter keeps every line
        exact .inl (congrArg (fun ls => (({ a with lines := ls } : AdapterSt), some false))
          (List.filter_eq_self.2 fun l hl => congrArg not (Bool.eq_false_iff.2 (List.any_eq_false.1 h l hl))))

/-- vetoed, nothing moves; taken, `lineFn` on the lines and the model's part on the store -/
theorem apply_cases (e : Enforcer) (op : SOp) (hk : e.adapter.kind = .memory) (hp : e.adapter.plan = [])
    (has : e.autoSave = true) :
    (op.apply e).autoSave = true ∧
    ((op.apply e).adapter = e.adapter ∧ (op.apply e).store = e.store ∨
     (op.apply e).adapter = { e.adapter with lines := op.lineFn e.adapter.lines } ∧
      (op.apply e).store = (op.desc.step e.store).1 ∧ op.taken (proj op.desc.sec op.desc.pt e.adapter.lines)) := by
  obtain ⟨ha, hs, hsave⟩ := mgmt_fields_on e op.desc has
  rw [guarded_mem _ hk hp] at ha hs
  rw [SOp.apply_eq]
  refine ⟨hsave, ?_⟩
  rcases mem_cases e.adapter op with h | ⟨h, hch⟩ <;> rw [h] at ha hs
  · exact .inl ⟨ha, hs.trans (if_neg nofun)⟩
  · exact .inr ⟨ha, hs.trans (if_pos rfl), hch⟩

/-- **each of the five management calls keeps the mirror**: refused, nothing moves; taken, adapter and store do the
same to the same rule list -/
theorem memOk_step (e : Enforcer) (h : MemOk e) (op : SOp) : MemOk (op.apply e) := by
  obtain ⟨hk, hp, has, hm⟩ := h
  obtain ⟨hsave, ⟨ha, hs⟩ | ⟨ha, hs, hch⟩⟩ := apply_cases e op hk hp has
  · refine ⟨by rw [ha]; exact hk, by rw [ha]; exact hp, hsave, fun sec' pt' hex => ?_⟩
    rw [hs] at hex
    rw [ha, hs]
    exact hm sec' pt' hex
  · rw [mirror_iff_proj] at hm
    refine ⟨by rw [ha]; exact hk, by rw [ha]; exact hp, hsave, (mirror_iff_proj _).2 fun sec' pt' hex => ?_⟩
    rw [hs, op.desc_std.find_isSome] at hex
    rw [ha, hs, proj_lineFn, op.desc_std.getPolicy, hm sec' pt' hex]
    by_cases hh : op.desc.sec = sec' ∧ op.desc.pt = pt'
    · obtain ⟨rfl, rfl⟩ := hh
      rw [hm _ _ hex] at hch
      rw [if_pos ⟨rfl, rfl⟩, if_pos ⟨flag_of_taken e.store op hex hch, rfl, rfl⟩]
    · rw [if_neg hh, if_neg (fun h => hh h.2)]

/-! the five calls one by one (taken, vetoed or on an unknown policy type): instances of `memOk_step` -/

theorem mirror_add (e : Enforcer) (hk : e.adapter.kind = .memory) (hp : e.adapter.plan = [])
    (has : e.autoSave = true) (hm : Mirror e) (sec pt : String) (rule : Rule) :
    Mirror (e.addPolicy sec pt rule).1 :=
  (memOk_step e ⟨hk, hp, has, hm⟩ (.add sec pt rule)).2.2.2

theorem mirror_remove (e : Enforcer) (hk : e.adapter.kind = .memory) (hp : e.adapter.plan = [])
    (has : e.autoSave = true) (hm : Mirror e) (sec pt : String) (rule : Rule) :
    Mirror (e.removePolicy sec pt rule).1 :=
  (memOk_step e ⟨hk, hp, has, hm⟩ (.remove sec pt rule)).2.2.2

theorem mirror_addPolicies (e : Enforcer) (hk : e.adapter.kind = .memory) (hp : e.adapter.plan = [])
    (has : e.autoSave = true) (hm : Mirror e) (sec pt : String) (rules : List Rule) :
    Mirror (e.addPolicies sec pt rules).1 :=
  (memOk_step e ⟨hk, hp, has, hm⟩ (.addMany sec pt rules)).2.2.2

theorem mirror_removePolicies (e : Enforcer) (hk : e.adapter.kind = .memory) (hp : e.adapter.plan = [])
    (has : e.autoSave = true) (hm : Mirror e) (sec pt : String) (rules : List Rule) :
    Mirror (e.removePolicies sec pt rules).1 :=
  (memOk_step e ⟨hk, hp, has, hm⟩ (.removeMany sec pt rules)).2.2.2

theorem mirror_removeFiltered (e : Enforcer) (hk : e.adapter.kind = .memory) (hp : e.adapter.plan = [])
    (has : e.autoSave = true) (hm : Mirror e) (sec pt : String) (idx : Nat) (vals : List String) :
    Mirror (e.removeFiltered sec pt idx vals).1 :=
  (memOk_step e ⟨hk, hp, has, hm⟩ (.removeFiltered sec pt idx vals)).2.2.2

/-- **the adapter mirrors the store after every history of the five management calls** (accepted, vetoed, on existing
or unknown policy types, with or without watcher) -/
theorem mirror_history (e : Enforcer) (h : MemOk e) (ops : List SOp) : MemOk (ops.foldl SOp.apply e) :=
  List.foldlRecOn ops _ h (fun e he op _ => memOk_step e he op)

/-- **at any point of such a history the adapter offers a `load_policy`, per policy type, the stored rules** in stored
order (`reload_is_identity` also needs duplicate-free rule lists: `reload_after_history_with_save` carries them along) -/
theorem reload_after_history (e : Enforcer) (h : MemOk e) (ops : List SOp) :
    let e' := ops.foldl SOp.apply e
    ∀ sec pt, (e'.store.find sec pt).isSome = true →
      recsFor sec pt e'.adapter.records = e'.store.getPolicy sec pt := by
  intro e' sec pt hex
  have hm := mirror_history e h ops
  rw [records_memory _ hm.1]
  exact hm.2.2.2 sec pt hex

/-! ## `save_policy` into a memory adapter -/

/-- the shape `save_policy` relies on: a definition is filed under the first character of its key (`p2` under `p`), and
keys are distinct within a section -/
structure Canon (s : Store) : Prop where
  ptag : ∀ d ∈ s.p, tagOf d = "p"
  gtag : ∀ d ∈ s.g, tagOf d = "g"
  pkeys : (s.p.map (·.key)).Nodup
  gkeys : (s.g.map (·.key)).Nodup

/-- the `flatMap`: the records every branch of `AdapterSt.save` files -/
theorem recsFor_allRecords (s : Store) (hc : Canon s) (sec pt : String) (hex : (s.find sec pt).isSome = true) :
    recsFor sec pt ((s.p ++ s.g).flatMap (fun d => d.policy.map (fun r => (tagOf d, d.key, r)))) = s.getPolicy sec pt := by
  rw [recsFor_flatMap, List.flatMap_append]
  simp only [recsFor_const]
  unfold Store.getPolicy Store.find Store.sec at *
  by_cases h1 : sec = "p"
  · subst h1
    rw [flatMap_filed_unique s.p "p" pt hc.ptag hc.pkeys,
      flatMap_filed_none s.g "p" pt fun d hd h => absurd ((hc.gtag d hd).symm.trans h.1) (by decide), List.append_nil, if_pos rfl]
    rfl
  · rw [if_neg h1] at hex ⊢
    by_cases h2 : sec = "g"
    · subst h2
      rw [flatMap_filed_none s.p "g" pt fun d hd h => absurd ((hc.ptag d hd).symm.trans h.1) (by decide),
        flatMap_filed_unique s.g "g" pt hc.gtag hc.gkeys, List.nil_append, if_pos rfl]
      rfl
    · rw [if_neg h2] at hex; cases hex

/-- the lines `save_policy` leaves in a memory adapter (`AdapterSt.save`) -/
def savedLines (s : Store) : List Rule :=
  (((s.p ++ s.g).flatMap (fun d => d.policy.map (fun r => (tagOf d, d.key, r)))).map (fun t => tag t.1 t.2.1 t.2.2)).foldl
    insertMove []

theorem proj_savedLines (s : Store) (hc : Canon s) (hw : s.WF) (sec pt : String) (hex : (s.find sec pt).isSome = true) :
    proj sec pt (savedLines s) = s.getPolicy sec pt := by
  unfold savedLines
  rw [proj_foldl_insertMove, recsFor_allRecords s hc sec pt hex]
  exact foldl_insertMove_of_nodup _ [] (hw sec pt) (fun _ _ => List.not_mem_nil)

theorem savePolicy_mem (e : Enforcer) (hk : e.adapter.kind = .memory) (hp : e.adapter.plan = [])
    (hf : e.adapter.filtered = false) :
    ∃ log, e.savePolicy.1 = { e with adapter := { e.adapter with lines := savedLines e.store }, log := log } := by
  have hsave : e.adapter.save e.store = ({ e.adapter with lines := savedLines e.store }, some ()) := by
    unfold savedLines
    rw [List.map_flatMap]
    simp only [List.map_map]
    generalize e.adapter = a at *
    obtain ⟨kind, lines, text, filtered, plan⟩ := a
    dsimp only at hk hp
    subst hk hp
    rfl
  unfold Enforcer.savePolicy
  rw [if_neg (by rw [hf]; exact Bool.false_ne_true), hsave]
  exact ⟨_, emit_eq _ _⟩

/-- **`save_policy` into a memory adapter establishes the mirror**, so (`reload_is_identity`) a following `load_policy`
changes nothing -/
theorem save_establishes_mirror (e : Enforcer) (hk : e.adapter.kind = .memory) (hp : e.adapter.plan = [])
    (hf : e.adapter.filtered = false) (hc : Canon e.store) (hw : e.store.WF) :
    Mirror e.savePolicy.1 := by
  obtain ⟨log, h⟩ := savePolicy_mem e hk hp hf
  rw [h]
  exact (mirror_iff_proj _).2 (proj_savedLines e.store hc hw)

def keysOf (s : Store) : List String × List String := (s.p.map (·.key), s.g.map (·.key))

theorem keysOf_step {m : Mgmt} (hm : m.Std) (s : Store) : keysOf (m.step s).1 = keysOf s :=
  Prod.ext (hm.map s (·.key) (fun _ _ => rfl) "p") (hm.map s (·.key) (fun _ _ => rfl) "g")

/-- `Canon` speaks about the names of the definitions only -/
theorem canon_congr (s s' : Store) (h : keysOf s' = keysOf s) (hc : Canon s) : Canon s' := by
  have hp : s'.p.map (·.key) = s.p.map (·.key) := congrArg Prod.fst h
  have hg : s'.g.map (·.key) = s.g.map (·.key) := congrArg Prod.snd h
  have tag : ∀ (ds ds' : List PolDef) (t : String), ds'.map (·.key) = ds.map (·.key) → (∀ d ∈ ds, tagOf d = t) →
      ∀ d ∈ ds', tagOf d = t := by
    intro ds ds' t hk hall d hd
    obtain ⟨d0, hd0, hkey⟩ := List.mem_map.1 (hk ▸ List.mem_map_of_mem (f := PolDef.key) hd)
    exact (congrArg (fun k : String => String.ofList (k.toList.take 1)) hkey).symm.trans (hall d0 hd0)
  exact ⟨tag s.p s'.p "p" hp hc.ptag, tag s.g s'.g "g" hg hc.gtag, by rw [hp]; exact hc.pkeys, by rw [hg]; exact hc.gkeys⟩

/-- what a history of management calls and saves keeps -/
structure SaveOk (e : Enforcer) : Prop where
  mem : MemOk e
  unfiltered : e.adapter.filtered = false
  canon : Canon e.store
  wf : e.store.WF

theorem saveOk_step (e : Enforcer) (h : SaveOk e) (op : SOp) : SaveOk (op.apply e) := by
  obtain ⟨hk, hp, has, _⟩ := h.mem
  obtain ⟨_, ⟨ha, hs⟩ | ⟨ha, hs, _⟩⟩ := apply_cases e op hk hp has
  · exact ⟨memOk_step e h.mem op, by rw [ha]; exact h.unfiltered, by rw [hs]; exact h.canon, by rw [hs]; exact h.wf⟩
  · exact ⟨memOk_step e h.mem op, by rw [ha]; exact h.unfiltered,
      by rw [hs]; exact canon_congr _ _ (keysOf_step op.desc_std _) h.canon, by rw [hs]; exact op.desc_std.wf _ h.wf⟩

theorem saveOk_save (e : Enforcer) (h : SaveOk e) : SaveOk e.savePolicy.1 := by
  obtain ⟨hk, hp, has, _⟩ := h.mem
  have hm := save_establishes_mirror e hk hp h.unfiltered h.canon h.wf
  obtain ⟨log, he⟩ := savePolicy_mem e hk hp h.unfiltered
  rw [he] at hm ⊢
  exact ⟨⟨hk, hp, has, hm⟩, h.unfiltered, h.canon, h.wf⟩

inductive FOp where
  | mgmt (op : SOp)
  | save

def FOp.apply (e : Enforcer) : FOp → Enforcer
  | .mgmt op => op.apply e
  | .save => e.savePolicy.1

/-- **the mirror over every history of management calls and saves**, interleaved at will (memory adapter, auto-save on) -/
theorem mirror_history_with_save (e : Enforcer) (h : SaveOk e) (ops : List FOp) : SaveOk (ops.foldl FOp.apply e) :=
  List.foldlRecOn ops _ h (fun e he op _ => match op with
    | .mgmt o => saveOk_step e he o
    | .save => saveOk_save e he)

/-- **a `load_policy` at any point of such a history reads back, under every policy type, the rules in memory** -/
theorem reload_after_history_with_save (e : Enforcer) (h : SaveOk e) (ops : List FOp) (sec pt : String)
    (hex : ((ops.foldl FOp.apply e).store.find sec pt).isSome = true) :
    (loadRecords (ops.foldl FOp.apply e).store.clear (ops.foldl FOp.apply e).adapter.records).getPolicy sec pt =
      (ops.foldl FOp.apply e).store.getPolicy sec pt := by
  have h' := mirror_history_with_save e h ops
  exact reload_is_identity _ h'.mem.1 h'.mem.2.2.2 h'.wf sec pt hex

/-! ## `save_policy` into a file or string adapter -/

/-- every policy type name and every stored rule can be written as text -/
structure Writable (s : Store) : Prop where
  keys : ∀ d ∈ s.p ++ s.g, SafeKey d.key
  rules : ∀ d ∈ s.p ++ s.g, ∀ r ∈ d.policy, SafeRule r

theorem lineRecord_saved (sep : List Char) (hsep : IsSep sep) (k : String) (r : Rule) (hk : SafeKey k) (hr : SafeRule r) :
    lineRecord (renderLine sep k.toList (r.map String.toList)) = some (String.ofList (k.toList.take 1), k, r) :=
  lineRecord_render sep (parse_render sep _ _ hsep hk.safe hk.noComma hk.noHash
    (fun f hf => by obtain ⟨x, hx, rfl⟩ := List.mem_map.1 hf; exact hr.safe x hx)
    (fun h => hr.ne (List.map_eq_nil_iff.1 h))) hk

theorem filterMap_map_of {α β γ : Type} {f : α → γ} {g : γ → Option β} {h : α → β} {l : List α}
    (H : ∀ x ∈ l, g (f x) = some (h x)) : (l.map f).filterMap g = l.map h := by
  induction l with
  | nil => rfl
  | cons x xs ih =>
    rw [List.map_cons, List.filterMap_cons_some (H x List.mem_cons_self), ih fun y hy => H y (List.mem_cons_of_mem _ hy),
      List.map_cons]

theorem filterMap_lineRecord_saved (sep : List Char) (hsep : IsSep sep) (ds : List PolDef) (hk : ∀ d ∈ ds, SafeKey d.key)
    (hr : ∀ d ∈ ds, ∀ r ∈ d.policy, SafeRule r) :
    (ds.flatMap (fun d => d.policy.map (fun r => renderLine sep d.key.toList (r.map String.toList)))).filterMap lineRecord =
      ds.flatMap (fun d => d.policy.map (fun r => (tagOf d, d.key, r))) := by
  rw [List.filterMap_flatMap, List.flatMap_def, List.flatMap_def]
  exact congrArg _ (List.map_congr_left fun d hd =>
    filterMap_map_of fun r h => lineRecord_saved sep hsep d.key r (hk d hd) (hr d hd r h))

/-- **the text `save_policy` writes reads back, line for line, as the stored rules** under their policy types, in
stored order -/
theorem saved_text_records (sep : List Char) (hsep : IsSep sep) (hnl : '\n' ∉ sep) (s : Store) (hw : Writable s) :
    (splitLines (((s.p ++ s.g).flatMap (fun d =>
        d.policy.map (fun r => renderLine sep d.key.toList (r.map String.toList) ++ ['\n']))).flatten)).filterMap lineRecord =
      (s.p ++ s.g).flatMap (fun d => d.policy.map (fun r => (tagOf d, d.key, r))) := by
  have hlines : (s.p ++ s.g).flatMap (fun d =>
        d.policy.map (fun r => renderLine sep d.key.toList (r.map String.toList) ++ ['\n'])) =
      ((s.p ++ s.g).flatMap (fun d =>
        d.policy.map (fun r => renderLine sep d.key.toList (r.map String.toList)))).map (· ++ ['\n']) := by
    rw [List.map_flatMap]; simp only [List.map_map]; rfl
  rw [hlines, splitLines_terminated]
  · rw [List.filterMap_append, filterMap_lineRecord_saved sep hsep _ hw.keys hw.rules]
    exact List.append_nil _
  · intro l hl
    simp only [List.mem_flatMap, List.mem_map] at hl
    obtain ⟨d, hd, r, hr, rfl⟩ := hl
    exact renderLine_no_nl sep hnl d.key r (hw.keys d hd) (hw.rules d hd r hr)

/-- after `save_policy` a file or string adapter offers exactly the stored rules -/
theorem save_text_records (e : Enforcer) (hk : e.adapter.kind = .file ∨ e.adapter.kind = .string) (hp : e.adapter.plan = [])
    (hf : e.adapter.filtered = false) (hw : Writable e.store) (hpd : e.store.p.isEmpty = false) :
    e.savePolicy.1.store = e.store ∧
    e.savePolicy.1.adapter.records =
      (e.store.p ++ e.store.g).flatMap (fun d => d.policy.map (fun r => (tagOf d, d.key, r))) := by
  -- the adapter writes with the separator of its kind
  obtain ⟨sep, hsep, hnl, hsave⟩ : ∃ sep, IsSep sep ∧ '\n' ∉ sep ∧ e.adapter.save e.store =
      ({ e.adapter with text := ((e.store.p ++ e.store.g).flatMap (fun d =>
          d.policy.map (fun r => renderLine sep d.key.toList (r.map String.toList) ++ ['\n']))).flatten }, some ()) := by
    have hne : ¬ e.store.p.isEmpty = true := by rw [hpd]; exact Bool.false_ne_true
    generalize e.adapter = a at hk hp
    obtain ⟨kind, lines, text, filtered, plan⟩ := a
    dsimp only at hk hp
    subst hp
    rcases hk with rfl | rfl
    · exact ⟨[','], isSep_file, by decide, if_neg hne⟩
    · exact ⟨[',', ' '], isSep_string, by decide, if_neg hne⟩
  unfold Enforcer.savePolicy
  rw [if_neg (by rw [hf]; exact Bool.false_ne_true), hsave]
  dsimp only
  rw [emit_eq]
  refine ⟨rfl, ?_⟩
  rw [records_text]
  · exact saved_text_records sep hsep hnl e.store hw
  · exact hk

/-- the file and string adapters refuse a model without a policy definition, and nothing moves -/
theorem save_without_pdef_refused (e : Enforcer) (hk : e.adapter.kind = .file ∨ e.adapter.kind = .string)
    (hp : e.adapter.plan = []) (hf : e.adapter.filtered = false) (hpd : e.store.p.isEmpty = true) :
    e.savePolicy.2 = .err .model ∧ e.savePolicy.1.adapter = e.adapter ∧ e.savePolicy.1.store = e.store := by
  have hsave : e.adapter.save e.store = (e.adapter, none) := by
    rcases hk with hk | hk <;>
      simp only [AdapterSt.save, AdapterSt.nextFault, hp, hk, hpd, if_true]
  have herr : e.adapter.saveErr e.store = .model := by
    rcases hk with hk | hk <;> simp [AdapterSt.saveErr, AdapterSt.nextFault, hp, hk, hpd]
  unfold Enforcer.savePolicy
  rw [if_neg (by rw [hf]; exact Bool.false_ne_true), hsave, herr]
  exact ⟨rfl, rfl, rfl⟩

/-- **save, then load, is the identity for the file and the string adapter**, rule for rule in stored order, whatever
commas, inner blanks, '#', '=' or multi-byte characters the values contain -/
theorem save_then_load_text (e : Enforcer) (hk : e.adapter.kind = .file ∨ e.adapter.kind = .string)
    (hp : e.adapter.plan = []) (hf : e.adapter.filtered = false) (hw : Writable e.store) (hc : Canon e.store)
    (hpd : e.store.p.isEmpty = false)
    (hwf : e.store.WF) (sec pt : String) (hex : (e.store.find sec pt).isSome = true) :
    (loadRecords e.savePolicy.1.store.clear e.savePolicy.1.adapter.records).getPolicy sec pt = e.store.getPolicy sec pt := by
  obtain ⟨h1, h2⟩ := save_text_records e hk hp hf hw hpd
  have hr := recsFor_allRecords e.store hc sec pt hex
  rw [h1, h2, getPolicy_loadRecords_clear hex (by rw [hr]; exact hwf sec pt), hr]

/-! ## `clear_policy` -/

/-- **`clear_policy` with auto-save on empties the store behind the adapter whatever the enforcer holds in memory**, also
when it holds nothing (a second clear, a clear after a filtered load that kept nothing): no later addition is vetoed
because of a leftover -/
theorem clear_empties_adapter (e : Enforcer) (hs : e.autoSave = true) (hp : e.adapter.plan = []) :
    e.clearPolicy.1.adapter.kind = e.adapter.kind ∧
    (e.adapter.kind = .memory → e.clearPolicy.1.adapter.lines = []) ∧
    (e.adapter.kind = .file ∨ e.adapter.kind = .string → e.clearPolicy.1.adapter.text = []) := by
  rw [clearPolicy_adapter e hs]
  unfold AdapterSt.clear
  rw [AdapterSt.nextFault_pass hp]
  dsimp only
  cases hk : e.adapter.kind <;> simp [hk]

/-! ## Examples -/

example : IsSep [','] := isSep_file
example : IsSep [',', ' '] := isSep_string

example : SafeField "a,b".toList := ⟨by decide, by decide, by decide, by decide⟩
example : SafeField "d é".toList := ⟨by decide, by decide, by decide, by decide⟩
example : parseCsvLine (renderLine [','] "p".toList ["alice".toList, "a,b".toList, "read".toList]) =
    some ["p".toList, "alice".toList, "a,b".toList, "read".toList] := by decide +kernel

/-- the premise of `save_establishes_mirror` holds of the usual shape of a model (p, p2 / g, g2) -/
example : Canon ⟨[{ key := "p", tokens := [], arity := 0, policy := [] }, { key := "p2", tokens := [], arity := 0, policy := [] }],
    [{ key := "g", tokens := [], arity := 2, policy := [] }, { key := "g2", tokens := [], arity := 3, policy := [] }]⟩ :=
  ⟨by decide +kernel, by decide +kernel, by decide +kernel, by decide +kernel⟩

/-- the premises of `save_then_load_text` hold of a concrete store with a comma inside a value -/
def demoStore : Store := ⟨[{ key := "p", tokens := [], arity := 0, policy := [["alice", "a,b"]] }], []⟩
theorem demo_writable : Writable demoStore :=
  ⟨List.forall_mem_singleton.2 ⟨⟨by decide, by decide, by decide, by decide⟩, by decide, by decide, by decide⟩,
   List.forall_mem_singleton.2 (List.forall_mem_singleton.2 ⟨by decide,
     List.forall_mem_cons.2 ⟨⟨by decide, by decide, by decide, by decide⟩,
       List.forall_mem_singleton.2 ⟨by decide, by decide, by decide, by decide⟩⟩,
     List.forall_mem_cons.2 ⟨by decide, List.forall_mem_singleton.2 (by decide)⟩⟩)⟩
example : Canon demoStore := ⟨by decide +kernel, by decide +kernel, by decide +kernel, by decide +kernel⟩
example : (splitLines "p, alice,\"a,b\"\n".toList).filterMap lineRecord = [("p", "p", ["alice", "a,b"])] := by decide +kernel

/-- non-vacuity: an empty enforcer over an empty memory adapter, auto-save on -/
def demoMem : Enforcer :=
  { defs := ⟨[], [], []⟩, store := ⟨[{ key := "p", tokens := [], arity := 0, policy := [] }], [{ key := "g", tokens := [], arity := 2, policy := [] }]⟩,
    adapter := AdapterSt.mk0 .memory, rm := RoleMgr.new 10, enabled := true, autoSave := true, autoBuild := true,
    autoNotify := true, callbacks := 1, hasWatcher := false, gfuncs := [("g", 2)], userFns := [], log := [] }

theorem demoMem_ok : SaveOk demoMem := by
  -- nothing is stored on either side: the store is its own cleared store
  have hclear : demoMem.store = demoMem.store.clear := rfl
  refine ⟨⟨rfl, rfl, rfl, fun sec pt _ => ?_⟩, rfl, ⟨by decide +kernel, by decide +kernel, by decide +kernel, by decide +kernel⟩,
    hclear ▸ Store.WF.clear⟩
  rw [hclear, Store.getPolicy_clear]; rfl

example : (([FOp.mgmt (.add "p" "p" ["alice", "data1"]), .save, .mgmt (.add "g" "g" ["alice", "admin"]), .mgmt (.remove "p" "p" ["alice", "data1"]), .save].foldl
    FOp.apply demoMem).store.getPolicy "g" "g") = [["alice", "admin"]] := by decide +kernel

end Casbin.C09
