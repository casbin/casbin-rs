import CasbinModel.Lemmas.PatRoles
/-!
# C03 — Role inheritance is reachability within the domain

`RoleMgr` mirrors `DefaultRoleManager` without matching functions, including the BFS whose depth counter advances
only when the queue drains; the statements hold for every history of add/delete/clear, graph size and hierarchy limit.
The second part carries them to the manager as written (`PatRoles.lean`): with no function installed (`pat_*`) and,
for `has_link`, with a domain-matching function (`patdom_*`).
-/
namespace Casbin.C03
open Casbin
variable {α : Type} [DecidableEq α]

/-- **Soundness, whatever the depth**: an unreachable role is never reported. -/
theorem hasLink_sound (rm : RoleMgr α) (a b d : α) (h : rm.hasLink a b d = true) :
    a = b ∨ Reach (rm.graph d) a b := by
  rw [hasLink_eq] at h
  refine (Classical.em (a = b)).imp_right fun hab => ?_
  rw [if_neg hab] at h
  by_cases ha : a ∈ (rm.graph d).nodes
  · exact search_sound _ _ (sinv_init _ a) ((if_pos ha).symm.trans h)
  · rw [if_neg ha] at h; cases h

/-- **Completeness below the limit**, for the code's level-blind depth counter. -/
theorem hasLink_complete (rm : RoleMgr α) (hw : rm.WF) (a b d : α)
    (h : a = b ∨ ∃ L, L < rm.maxLevel ∧ Path (rm.graph d) a b L) : rm.hasLink a b d = true := by
  rw [hasLink_eq]
  by_cases hab : a = b
  · exact if_pos hab
  · obtain ⟨L, hL, hp⟩ := h.resolve_left hab
    -- `a ≠ b`: the path has a first link, so `a` is a node
    have ha : a ∈ (rm.graph d).nodes := by
      cases hp with
      | nil => exact absurd rfl hab
      | cons he _ => exact ((hw d).edges_in _ he).1
    rw [if_neg hab, if_pos ha]
    exact (search_init (fun e he => ((hw d).edges_in e he).2) ha b (Nat.lt_succ_self _)).2 ⟨L, hL, hp⟩

/-- **Below the limit `has_link` is reachability.**  `hsh`: every reachable pair of the domain has a path shorter than
`maxLevel`; it is `C05.Shallow (rm.graph d) rm.maxLevel` written out (C05, C08, C19 pass it in that form).  `Reach`
counts zero links too, so `a = b ∨` is redundant here (not in `hasLink_complete`: `maxLevel` may be 0); it mirrors the
code's first test. -/
theorem hasLink_iff_reach (rm : RoleMgr α) (hw : rm.WF) (d : α)
    (hsh : ∀ a b, Reach (rm.graph d) a b → ∃ L, L < rm.maxLevel ∧ Path (rm.graph d) a b L) (a b : α) :
    rm.hasLink a b d = true ↔ a = b ∨ Reach (rm.graph d) a b :=
  ⟨hasLink_sound rm a b d, fun h => hasLink_complete rm hw a b d (h.imp_right (hsh a b))⟩

/-- **Termination / fuel sufficiency**: the model's fuel is never why the BFS stops, i.e. the un-fuelled
`while let Some(node) = bfs.next()` loop of the source terminates (also on cycles) with this answer. -/
theorem bfs_fuel_suffices (g : Graph α) (hw : g.WF) (maxD : Nat) (a t : α) (ha : a ∈ g.nodes) (k : Nat) :
    search g maxD t (g.nodes.length + 1 + k) (Bfs.init a) = search g maxD t (g.nodes.length + 1) (Bfs.init a) :=
  (search_init (fun e he => (hw.edges_in e he).2) ha t (Nat.lt_succ_self _)).1 k

theorem wf_run (n : Nat) (h : List (RmOp α)) : ((RoleMgr.new n : RoleMgr α).run h).WF :=
  WF_run (WF_new n) h

/-- **Refinement**: the edges of a domain's graph are the links added and not deleted since the last clear. -/
theorem edges_run (n : Nat) (h : List (RmOp α)) (d a b : α) :
    (a, b) ∈ (((RoleMgr.new n : RoleMgr α).run h).graph d).edges ↔ (LinkRel.empty.run h) d a b = true :=
  refines_run (WF_new n) (refines_new n) h d a b

/-- C03 over histories: soundness -/
theorem history_sound (n : Nat) (h : List (RmOp α)) (a b d : α)
    (hl : ((RoleMgr.new n : RoleMgr α).run h).hasLink a b d = true) :
    a = b ∨ ∃ k, SpecPath ((LinkRel.empty.run h) d) a b k :=
  (hasLink_sound _ a b d hl).imp_right fun ⟨k, hp⟩ => ⟨k, (path_iff_specPath (edges_run n h d)).mp hp⟩

/-- C03 over histories: completeness below the limit `n` -/
theorem history_complete (n : Nat) (h : List (RmOp α)) (a b d : α)
    (hp : a = b ∨ ∃ k, k < n ∧ SpecPath ((LinkRel.empty.run h) d) a b k) :
    ((RoleMgr.new n : RoleMgr α).run h).hasLink a b d = true :=
  hasLink_complete _ (wf_run n h) a b d <| hp.imp_right fun ⟨k, hk, hp⟩ =>
    ⟨k, (maxLevel_run _ h).symm ▸ hk, (path_iff_specPath (edges_run n h d)).mpr hp⟩

theorem getRoles_eq (rm : RoleMgr α) (hw : rm.WF) (a d x : α) :
    x ∈ rm.getRoles a d ↔ (a, x) ∈ (rm.graph d).edges := by
  rw [getRoles_def]
  split
  · rw [mem_dedup, mem_succs]
  · rename_i ha; exact ⟨nofun, fun h => absurd ((hw d).edges_in _ h).1 ha⟩

theorem getUsers_eq (rm : RoleMgr α) (hw : rm.WF) (a d x : α) :
    x ∈ rm.getUsers a d ↔ (x, a) ∈ (rm.graph d).edges := by
  rw [getUsers_def]
  split
  · rw [mem_dedup, mem_preds]
  · rename_i ha; exact ⟨nofun, fun h => absurd ((hw d).edges_in _ h).2 ha⟩

theorem getRoles_nodup (rm : RoleMgr α) (a d : α) : (rm.getRoles a d).Nodup := by
  rw [getRoles_def]; split
  · exact nodup_dedup _
  · exact List.nodup_nil

/-- **Domains are separate**: an operation on another domain leaves this one's graph untouched, hence (`hasLink_eq`,
`getRoles_def`, `getUsers_def`) every answer about it.  (`graph?` form: `apply_graph?_ne`.) -/
theorem other_domain_irrelevant (rm : RoleMgr α) (a b d d' : α) (hd : d' ≠ d) :
    (rm.apply (.add a b d')).graph d = rm.graph d ∧ (rm.apply (.del a b d')).graph d = rm.graph d := by
  simp [apply_graph, Graph.step, hd]

/-- hypothesis on `graph?` (what `apply_graph?_ne` of `Lemmas/RoleMgr` delivers; C07 composes the two); equality of
`rm.graph d` would do (`hasLink_eq`, `getRoles_def`, `getUsers_def`) -/
theorem queries_depend_only_on_domain_graph (rm rm' : RoleMgr α) (d : α)
    (hg : rm.graph? d = rm'.graph? d) (hm : rm.maxLevel = rm'.maxLevel) (a b : α) :
    rm.hasLink a b d = rm'.hasLink a b d ∧ rm.getRoles a d = rm'.getRoles a d ∧
      rm.getUsers a d = rm'.getUsers a d := by
  simp [RoleMgr.hasLink, RoleMgr.getRoles, RoleMgr.getUsers, hg, hm]

/-- when `delete_link` fails (NotFound) -/
theorem deleteLink_err_iff (rm : RoleMgr α) (a b d : α) :
    rm.deleteLink a b d = none ↔ a ≠ b ∧ ¬ (a ∈ (rm.graph d).nodes ∧ b ∈ (rm.graph d).nodes) := by
  rw [deleteLink_eq]
  by_cases hab : a = b <;> by_cases hn : a ∈ (rm.graph d).nodes ∧ b ∈ (rm.graph d).nodes <;> simp [hab, hn]

/-- the chain `0 → 1 → … → 11` under limit 10: node 9 is found (9 links), node 10 is not (10 links, at the limit),
as observed on the crate -/
def chain12 : RoleMgr Nat :=
  (RoleMgr.new 10).run ((List.range 11).map (fun i => RmOp.add i (i + 1) 0))

example : chain12.hasLink 0 9 0 = true := by decide +kernel
example : chain12.hasLink 0 10 0 = false := by decide +kernel
example : chain12.hasLink 0 9 1 = false := by decide +kernel   -- another domain
/-- non-vacuity of `history_complete`'s premise: a diamond closed to a cycle -/
example : SpecPath ((LinkRel.empty.run
    [RmOp.add 1 2 0, .add 1 3 0, .add 2 4 0, .add 3 4 0, .add 4 1 0]) 0) 1 4 2 :=
  SpecPath.cons (b := 2) (by decide +kernel) (SpecPath.cons (b := 4) (by decide +kernel) (SpecPath.nil _))

/-! ### The manager as written (`PatRoles.lean`: edge variants, matching functions, the three-part walk)

With no matching function installed, as the `Enforcer` configures it, it answers every history as the model above
(`Lemmas/PatRoles.lean`), so C03 holds of it. -/

theorem pat_history_sound (n : Nat) (h : List (RmOp α)) (a b d : α)
    (hl : ((PRm.new n : PRm α).run none none h).hasLink none none a b d = true) :
    a = b ∨ ∃ k, SpecPath ((LinkRel.empty.run h) d) a b k := by
  rw [← new_toP, run_toP, hasLink_toP] at hl
  exact history_sound n h a b d hl

theorem pat_history_complete (n : Nat) (h : List (RmOp α)) (a b d : α)
    (hp : a = b ∨ ∃ k, k < n ∧ SpecPath ((LinkRel.empty.run h) d) a b k) :
    ((PRm.new n : PRm α).run none none h).hasLink none none a b d = true := by
  rw [← new_toP, run_toP, hasLink_toP]
  exact history_complete n h a b d hp

theorem pat_listings (n : Nat) (h : List (RmOp α)) (a d x : α) :
    (x ∈ ((PRm.new n : PRm α).run none none h).getRoles none none a d ↔ (LinkRel.empty.run h) d a x = true) ∧
    (x ∈ ((PRm.new n : PRm α).run none none h).getUsers none none a d ↔ (LinkRel.empty.run h) d x a = true) := by
  rw [← new_toP, run_toP, getRoles_toP, getUsers_toP]
  exact ⟨(getRoles_eq _ (wf_run n h) a d x).trans (edges_run n h d a x),
         (getUsers_eq _ (wf_run n h) a d x).trans (edges_run n h d x a)⟩

theorem pat_deleteLink_err (n : Nat) (h : List (RmOp α)) (a b d : α) :
    (((PRm.new n : PRm α).run none none h).deleteLink none none a b d).isNone =
      (((RoleMgr.new n : RoleMgr α).run h).deleteLink a b d).isNone := by
  rw [← new_toP, run_toP, deleteLink_toP]
  cases (RoleMgr.run (RoleMgr.new n) h).deleteLink a b d <;> simp

/-- non-vacuity: a history with a failing delete, a clear and a re-add -/
example :
    ((PRm.new 10 : PRm Nat).run none none [.add 1 2 0, .del 7 8 0, .add 2 3 0, .clear, .add 2 3 0]).hasLink
        none none 2 3 0 = true ∧
    ((PRm.new 10 : PRm Nat).run none none [.add 1 2 0, .del 7 8 0, .add 2 3 0, .clear, .add 2 3 0]).hasLink
        none none 1 3 0 = false := by
  decide +kernel

/-- `mem_matchedDomains` of `Lemmas/PatRoles` at `some f`, where its `match` reduces -/
theorem matchedDomains_some (rm : RoleMgr α) (f : α → α → Bool) (d k : α) :
    k ∈ rm.toP.matchedDomains (some f) d ↔ (rm.graph? k).isSome = true ∧ f d k = true :=
  mem_matchedDomains rm (some f) d k

/-- **with a domain-matching function**: a role is reported for a request domain exactly when it is reported in one
of the stored domains the function matches (`matchedDomains_some`) -/
theorem patdom_hasLink_iff (rm : RoleMgr α) (df : RoleFn α) (a b d : α) (hab : a ≠ b) :
    rm.toP.hasLink none df a b d = true ↔ ∃ k ∈ rm.toP.matchedDomains df d, rm.hasLink a b k = true := by
  rw [hasLink_toP_df rm df a b d hab, List.any_eq_true]

theorem patdom_sound (rm : RoleMgr α) (df : RoleFn α) (a b d : α) (hab : a ≠ b)
    (h : rm.toP.hasLink none df a b d = true) :
    ∃ k ∈ rm.toP.matchedDomains df d, Reach (rm.graph k) a b := by
  obtain ⟨k, hk, hl⟩ := (patdom_hasLink_iff rm df a b d hab).mp h
  rcases hasLink_sound rm a b k hl with h1 | h1
  · exact absurd h1 hab
  · exact ⟨k, hk, h1⟩

theorem patdom_complete (rm : RoleMgr α) (hw : rm.WF) (df : RoleFn α) (a b d k : α) (hab : a ≠ b)
    (hk : k ∈ rm.toP.matchedDomains df d) (L : Nat) (hL : L < rm.maxLevel) (hp : Path (rm.graph k) a b L) :
    rm.toP.hasLink none df a b d = true :=
  (patdom_hasLink_iff rm df a b d hab).mpr ⟨k, hk, hasLink_complete rm hw a b k (Or.inr ⟨L, hL, hp⟩)⟩

end Casbin.C03
