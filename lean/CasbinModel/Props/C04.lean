import CasbinModel.Lemmas.Store
/-!
# C04 — The policy store behaves as an insertion-ordered set

The observable of a store is `getPolicy sec pt` (every read API is defined from it:
`reads_are_views`).  For each management operation the theorems give the new contents
of the targeted rule list *in order*, the returned flag, and that nothing else moves.
-/
namespace Casbin.C04
open Casbin

/-- management operations at store level -/
inductive MOp where
  | add (sec pt : String) (r : Rule)
  | addMany (sec pt : String) (rs : List Rule)
  | remove (sec pt : String) (r : Rule)
  | removeMany (sec pt : String) (rs : List Rule)
  | removeFiltered (sec pt : String) (idx : Nat) (vals : List String)
  | clear

def step (s : Store) : MOp → Store × Bool
  | .add sec pt r => s.addPolicy sec pt r
  | .addMany sec pt rs => s.addPolicies sec pt rs
  | .remove sec pt r => s.removePolicy sec pt r
  | .removeMany sec pt rs => s.removePolicies sec pt rs
  | .removeFiltered sec pt idx vals => let r := s.removeFiltered sec pt idx vals; (r.1, r.2.1)
  | .clear => (s.clear, true)

def run (s : Store) (h : List MOp) : Store := h.foldl (fun s op => (step s op).1) s

/-- does the call name the policy type `(sec', pt')`?  (`clear` names them all) -/
def MOp.hits : MOp → String → String → Prop
  | .add sec pt _, sec', pt' | .addMany sec pt _, sec', pt' | .remove sec pt _, sec', pt'
  | .removeMany sec pt _, sec', pt' | .removeFiltered sec pt _ _, sec', pt' => sec = sec' ∧ pt = pt'
  | .clear, _, _ => True

instance (op : MOp) (sec' pt' : String) : Decidable (op.hits sec' pt') := by
  cases op <;> unfold MOp.hits <;> infer_instance

/-- what a call that takes effect does to a rule list it names -/
def MOp.fn : MOp → List Rule → List Rule
  | .add _ _ r => fun pol => (OrdSet.add pol r).1
  | .addMany _ _ rs => fun pol => OrdSet.addAll pol rs
  | .remove _ _ r => fun pol => (OrdSet.remove pol r).1
  | .removeMany _ _ rs => fun pol => OrdSet.removeAll pol rs
  | .removeFiltered _ _ idx vals => fun pol => pol.filter (fun r => !filterMatch idx vals r)
  | .clear => fun _ => []

/-- **what a call does to the observable.**  `Mgmt.Std.getPolicy`, `.fn_nodup`, `.wf` (Lemmas/StoreStep: enforcer level, not
imported here) say the same of the model's part of the enforcer's five calls; both are case splits over the `getPolicy_X`
laws of Lemmas/Store. -/
theorem getPolicy_step (s : Store) (op : MOp) (sec' pt' : String) :
    (step s op).1.getPolicy sec' pt' =
      if (step s op).2 = true ∧ op.hits sec' pt' then op.fn (s.getPolicy sec' pt') else s.getPolicy sec' pt' := by
  cases op with
  | add sec pt r => exact s.getPolicy_addPolicy sec pt r sec' pt'
  | remove sec pt r => exact s.getPolicy_removePolicy sec pt r sec' pt'
  | addMany sec pt rs => exact s.getPolicy_addPolicies sec pt rs sec' pt'
  | removeMany sec pt rs => exact s.getPolicy_removePolicies sec pt rs sec' pt'
  | removeFiltered sec pt idx vals => exact s.getPolicy_removeFiltered sec pt idx vals sec' pt'
  | clear => rw [if_pos ⟨rfl, trivial⟩]; exact s.getPolicy_clear sec' pt'

theorem fn_nodup (op : MOp) {pol : List Rule} (h : pol.Nodup) : (op.fn pol).Nodup := by
  cases op with
  | add _ _ r => exact OrdSet.add_nodup h r
  | addMany _ _ rs => exact OrdSet.addAll_nodup h rs
  | remove _ _ r => exact OrdSet.remove_nodup h r
  | removeMany _ _ rs => exact OrdSet.removeAll_nodup h rs
  | removeFiltered _ _ idx vals => exact h.filter _
  | clear => exact List.nodup_nil

/-- `clear` always reports a change, so `h` alone excludes it: `hop` is not needed -/
theorem no_change_no_effect (s : Store) (op : MOp) (sec' pt' : String) (hop : op ≠ .clear)
    (h : (step s op).2 = false) : (step s op).1.getPolicy sec' pt' = s.getPolicy sec' pt' := by
  rw [getPolicy_step, if_neg (fun hh => Bool.false_ne_true (h ▸ hh.1))]

theorem step_wf (s : Store) (hw : s.WF) (op : MOp) : (step s op).1.WF := by
  intro sec' pt'
  rw [getPolicy_step]
  split
  · exact fn_nodup op (hw sec' pt')
  · exact hw sec' pt'

/-- **Invariant over every management history**: each rule list stays duplicate free. -/
theorem wf_run (s : Store) (hw : s.WF) (h : List MOp) : (run s h).WF :=
  List.foldlRecOn h _ hw (fun s hs op _ => step_wf s hs op)

/-! Call by call, in terms of the definition `d` that `find` returns.  For an accepted batch `addMany_order` is the whole
statement, `addMany_eq` the same with `OrdSet.addAll` not written out, `addMany_accepted` what follows from it. -/

theorem add_target (s : Store) (sec pt : String) (r : Rule) (d : PolDef) (h : s.find sec pt = some d) :
    (s.addPolicy sec pt r).1.getPolicy sec pt = (if r ∈ d.policy then d.policy else d.policy ++ [r]) ∧
    (s.addPolicy sec pt r).2 = decide (r ∉ d.policy) := by
  rw [Store.addPolicy_fst, Store.getPolicy_modify, if_pos ⟨⟨rfl, rfl⟩, by rw [h]; rfl⟩, Store.getPolicy_of_find h,
    OrdSet.add_fst, Bool.eq_iff_iff, Store.addPolicy_snd, Store.getPolicy_of_find h, h]
  simp

theorem add_unknown_type (s : Store) (sec pt : String) (r : Rule) (h : s.find sec pt = none) :
    s.addPolicy sec pt r = (s, false) := by
  unfold Store.addPolicy; rw [h]

theorem add_other (s : Store) (sec pt sec' pt' : String) (r : Rule) (hne : ¬ (sec = sec' ∧ pt = pt')) :
    (s.addPolicy sec pt r).1.getPolicy sec' pt' = s.getPolicy sec' pt' := by
  rw [Store.addPolicy_fst, Store.getPolicy_modify, if_neg (fun h => hne h.1)]

/-! batch add: all-or-nothing; new rules appended in order, old ones keep their place -/

theorem addMany_rejected (s : Store) (sec pt : String) (rs : List Rule) (d : PolDef)
    (h : s.find sec pt = some d) (hdup : ∃ r ∈ rs, r ∈ d.policy) :
    s.addPolicies sec pt rs = (s, false) := by
  have hf : (s.addPolicies sec pt rs).2 = false := by
    rw [← Bool.not_eq_true, Store.addPolicies_snd, Store.getPolicy_of_find h]
    obtain ⟨r, hr, hd⟩ := hdup
    exact fun hh => hh.2 r hr hd
  exact Prod.ext (by rw [Store.addPolicies_fst, hf]; rfl) hf

theorem addMany_unknown_type (s : Store) (sec pt : String) (rs : List Rule) (h : s.find sec pt = none) :
    s.addPolicies sec pt rs = (s, false) := by
  unfold Store.addPolicies; rw [h]

theorem addMany_eq (s : Store) (sec pt : String) (rs : List Rule) (d : PolDef)
    (h : s.find sec pt = some d) (hnew : ∀ r ∈ rs, r ∉ d.policy) :
    (s.addPolicies sec pt rs).2 = true ∧ (s.addPolicies sec pt rs).1.getPolicy sec pt = OrdSet.addAll d.policy rs := by
  have hf : (s.addPolicies sec pt rs).2 = true := by
    rw [Store.addPolicies_snd, Store.getPolicy_of_find h, h]; exact ⟨rfl, hnew⟩
  exact ⟨hf, by rw [Store.getPolicy_addPolicies, if_pos ⟨hf, rfl, rfl⟩, Store.getPolicy_of_find h]⟩

theorem addMany_accepted (s : Store) (sec pt : String) (rs : List Rule) (d : PolDef)
    (h : s.find sec pt = some d) (hnew : ∀ r ∈ rs, r ∉ d.policy) :
    (s.addPolicies sec pt rs).2 = true ∧
    d.policy <+: (s.addPolicies sec pt rs).1.getPolicy sec pt ∧
    (∀ x, x ∈ (s.addPolicies sec pt rs).1.getPolicy sec pt ↔ x ∈ d.policy ∨ x ∈ rs) ∧
    (d.policy.Nodup → ((s.addPolicies sec pt rs).1.getPolicy sec pt).Nodup) := by
  obtain ⟨hf, hg⟩ := addMany_eq s sec pt rs d h hnew
  rw [hg]
  exact ⟨hf, OrdSet.addAll_prefix _ _, OrdSet.addAll_mem _ _, fun hn => OrdSet.addAll_nodup hn _⟩

/-- the rules of a batch in the order of their first occurrence, those already seen left out -/
def firstOcc {α : Type} [DecidableEq α] : List α → List α → List α
  | _, [] => []
  | seen, v :: vs => if v ∈ seen then firstOcc seen vs else v :: firstOcc (v :: seen) vs

theorem firstOcc_congr {α : Type} [DecidableEq α] (vs : List α) (a b : List α) (h : ∀ x, x ∈ a ↔ x ∈ b) :
    firstOcc a vs = firstOcc b vs := by
  induction vs generalizing a b with
  | nil => rfl
  | cons v vs ih =>
    exact ite_congr (propext (h v)) (fun _ => ih a b h)
      fun _ => congrArg (v :: ·) (ih _ _ fun x => by rw [List.mem_cons, List.mem_cons, h x])

/-- **the order a batch is stored in**: the old rules, then the new ones by first occurrence in the batch (a rule named
twice keeps the place of its first mention: `replace`, not `insert`) -/
theorem addAll_order {α : Type} [DecidableEq α] (s rs : List α) : OrdSet.addAll s rs = s ++ firstOcc s rs := by
  induction rs generalizing s with
  | nil => exact (List.append_nil s).symm
  | cons v vs ih =>
    show OrdSet.addAll (OrdSet.add s v).1 vs = s ++ if v ∈ s then firstOcc s vs else v :: firstOcc (v :: s) vs
    rw [ih, OrdSet.add_fst]
    split
    · rfl
    · rw [List.append_assoc, firstOcc_congr vs (s ++ [v]) (v :: s) fun x => by
        rw [List.mem_append, List.mem_singleton, List.mem_cons, or_comm]]
      rfl

theorem addMany_order (s : Store) (sec pt : String) (rs : List Rule) (d : PolDef)
    (h : s.find sec pt = some d) (hnew : ∀ r ∈ rs, r ∉ d.policy) :
    (s.addPolicies sec pt rs).1.getPolicy sec pt = d.policy ++ firstOcc d.policy rs := by
  rw [(addMany_eq s sec pt rs d h hnew).2, addAll_order]

theorem remove_target (s : Store) (sec pt : String) (r : Rule) (d : PolDef) (h : s.find sec pt = some d) :
    ((s.removePolicy sec pt r).1.getPolicy sec pt).Sublist d.policy ∧
    (d.policy.Nodup → ∀ x, x ∈ (s.removePolicy sec pt r).1.getPolicy sec pt ↔ x ∈ d.policy ∧ x ≠ r) ∧
    ((s.removePolicy sec pt r).2 = true ↔ r ∈ d.policy) := by
  rw [Store.removePolicy_fst, Store.getPolicy_modify, if_pos ⟨⟨rfl, rfl⟩, by rw [h]; rfl⟩, Store.removePolicy_snd,
    Store.getPolicy_of_find h]
  exact ⟨OrdSet.remove_sublist _ _, fun hn x => OrdSet.remove_mem hn r x, Iff.rfl⟩

theorem removeMany_rejected (s : Store) (sec pt : String) (rs : List Rule) (d : PolDef)
    (h : s.find sec pt = some d) (habs : ∃ r ∈ rs, r ∉ d.policy) :
    s.removePolicies sec pt rs = (s, false) := by
  have hf : (s.removePolicies sec pt rs).2 = false := by
    rw [← Bool.not_eq_true, Store.removePolicies_snd, Store.getPolicy_of_find h]
    obtain ⟨r, hr, hd⟩ := habs
    exact fun hh => hd (hh.2 r hr)
  exact Prod.ext (by rw [Store.removePolicies_fst, hf]; rfl) hf

theorem removeMany_accepted (s : Store) (sec pt : String) (rs : List Rule) (d : PolDef)
    (h : s.find sec pt = some d) (hn : d.policy.Nodup) (hall : ∀ r ∈ rs, r ∈ d.policy) :
    (s.removePolicies sec pt rs).2 = true ∧
    ((s.removePolicies sec pt rs).1.getPolicy sec pt).Sublist d.policy ∧
    (∀ x, x ∈ (s.removePolicies sec pt rs).1.getPolicy sec pt ↔ x ∈ d.policy ∧ x ∉ rs) := by
  have hf : (s.removePolicies sec pt rs).2 = true := by
    rw [Store.removePolicies_snd, Store.getPolicy_of_find h, h]; exact ⟨rfl, hall⟩
  rw [Store.getPolicy_removePolicies, if_pos ⟨hf, rfl, rfl⟩, Store.getPolicy_of_find h]
  exact ⟨hf, OrdSet.removeAll_sublist _ _, OrdSet.removeAll_mem hn _⟩

/-! filtered removal: exactly the rules whose fields equal the non-empty filter values -/

theorem filterMatch_iff (idx : Nat) (vals : List String) (rule : Rule) :
    filterMatch idx vals rule = true ↔
      ∀ i v, vals[i]? = some v → v ≠ "" → rule[idx + i]? = some v := by
  unfold filterMatch
  simp only [List.all_eq_true, Bool.or_eq_true, decide_eq_true_eq]
  constructor
  · intro h i v hv hne
    have hm : (v, i) ∈ vals.zipIdx := by
      rw [List.mem_zipIdx_iff_getElem?]; simpa using hv
    rcases h (v, i) hm with h1 | h1
    · exact absurd h1 hne
    · exact h1
  · intro h p hp
    obtain ⟨v, i⟩ := p
    rw [List.mem_zipIdx_iff_getElem?] at hp
    by_cases hv : v = ""
    · exact Or.inl hv
    · exact Or.inr (h i v (by simpa using hp) hv)

theorem removeFiltered_target (s : Store) (sec pt : String) (idx : Nat) (vals : List String) (d : PolDef)
    (h : s.find sec pt = some d) (hv : vals ≠ []) :
    let res := s.removeFiltered sec pt idx vals
    res.1.getPolicy sec pt = d.policy.filter (fun r => !filterMatch idx vals r) ∧
    res.2.2 = d.policy.filter (filterMatch idx vals) ∧
    res.2.1 = !(d.policy.filter (filterMatch idx vals)).isEmpty := by
  have h2 := s.removeFiltered_snd sec pt idx vals
  rw [if_neg hv, Store.getPolicy_of_find h] at h2
  exact ⟨by rw [Store.getPolicy_removeFiltered_of_filter, if_pos ⟨rfl, rfl, hv⟩, Store.getPolicy_of_find h],
    congrArg Prod.snd h2, congrArg Prod.fst h2⟩

theorem removeFiltered_empty_filter (s : Store) (sec pt : String) (idx : Nat) :
    s.removeFiltered sec pt idx [] = (s, false, []) := rfl

theorem reads_are_views (s : Store) (sec pt : String) (idx : Nat) (vals : List String) (r : Rule) :
    s.getFiltered sec pt idx vals = (s.getPolicy sec pt).filter (filterMatch idx vals) ∧
    s.hasPolicy sec pt r = decide (r ∈ s.getPolicy sec pt) ∧
    (∀ vs, s.valuesForField sec pt idx = some vs → ∀ x, x ∈ vs ↔ ∃ rule ∈ s.getPolicy sec pt, rule[idx]? = some x) := by
  refine ⟨rfl, rfl, fun vs hvs x => ?_⟩
  unfold Store.valuesForField at hvs
  dsimp only at hvs
  split at hvs
  · rename_i hall
    cases hvs
    rw [mem_lastOccurrenceOrder, List.mem_map]
    refine exists_congr fun rule => and_congr_right fun hr => ?_
    rw [List.getD_eq_getElem?_getD, List.getElem?_eq_getElem (of_decide_eq_true (List.all_eq_true.1 hall rule hr))]
    exact ⟨congrArg some, Option.some.inj⟩
  · cases hvs

def demo : Store :=
  { p := [{ key := "p", tokens := ["p_sub", "p_eft"], arity := 0, policy := [["alice", "allow"], ["alice", "deny"]] }],
    g := [] }

/-- re-adding a stored rule reports `false` and keeps the order (regression for F1) -/
example : (demo.addPolicy "p" "p" ["alice", "allow"]).2 = false ∧
    (demo.addPolicy "p" "p" ["alice", "allow"]).1.getPolicy "p" "p" = [["alice", "allow"], ["alice", "deny"]] := by
  decide +kernel
example : (demo.getPolicy "p" "p").Nodup := by decide +kernel

example : firstOcc ([] : List Nat) [1, 2, 1, 3, 2] = [1, 2, 3] := by decide +kernel

end Casbin.C04
