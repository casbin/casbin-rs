import CasbinModel.Lemmas.Effect
/-! # C02 — Effect rules combine like their logical definitions

For every expression and every effect list, of any length; the lemmas are in `Lemmas/Effect.lean`. -/
namespace Casbin.C02
open Casbin

theorem pushAll_result (expr : EffExpr) (es : List Eff) (s : Stream)
    (hs : Stream.new expr es.length = some s) :
    (pushAll s es).done = true ∧ (pushAll s es).res = combine expr es := by
  obtain ⟨hres, hdone⟩ := pushAll_new hs es
  rw [hres, hdone, List.take_length]; simp

theorem feed_result (expr : EffExpr) (es : List Eff) (s : Stream)
    (hs : Stream.new expr es.length = some s) :
    (feed s es).done = true ∧ (feed s es).res = combine expr es := by
  rw [feed_eq_pushAll]; exact pushAll_result expr es s hs

/-- `next` after the whole sequence does not panic -/
theorem next_result (expr : EffExpr) (es : List Eff) (s : Stream)
    (hs : Stream.new expr es.length = some s) :
    (pushAll s es).next = some (combine expr es) := by
  obtain ⟨h1, h2⟩ := pushAll_result expr es s hs
  simp [Stream.next, h1, h2]

/-- the `assert!` of `new_stream` -/
theorem new_isSome_iff (expr : EffExpr) (cap : Nat) : (Stream.new expr cap).isSome ↔ 0 < cap := by
  unfold Stream.new; split <;> simp <;> omega

theorem push_true_iff_done (s : Stream) (e : Eff) : (s.push e).2 = (s.push e).1.done :=
  push_flag_eq_done s e

/-- Early completion is stable under every continuation. -/
theorem early_stable (expr : EffExpr) (n : Nat) (s : Stream) (pre : List Eff)
    (hs : Stream.new expr n = some s)
    (hdone : (pushAll s pre).done = true) (hlt : pre.length < n) :
    ∀ suf, combine expr (pre ++ suf) = (pushAll s pre).res := by
  intro suf
  obtain ⟨hres, hd⟩ := pushAll_new hs pre
  rw [hdone] at hd
  have hdec : decided expr pre = true := by simpa [Nat.not_le.mpr hlt] using hd.symm
  rw [hres, List.take_of_length_le (Nat.le_of_lt hlt), combine_append_of_decided _ hdec]

theorem done_at_cap (expr : EffExpr) (es : List Eff) (s : Stream)
    (hs : Stream.new expr es.length = some s) : (pushAll s es).done = true :=
  (pushAll_result expr es s hs).1

theorem complete_is_final (s : Stream) (es : List Eff) (h : s.done = true) : pushAll s es = s :=
  pushAll_of_done es h

theorem combine_ignores_indet (expr : EffExpr) (es : List Eff) :
    combine expr (es.filter (· ≠ .indet)) = combine expr es :=
  combine_filter_indet expr es

/-! ### The four logical definitions -/

theorem combine_allowOverride (es) : combine .allowOverride es = true ↔ Eff.allow ∈ es := by
  simp [combine]
theorem combine_denyOverride (es) : combine .denyOverride es = true ↔ Eff.deny ∉ es := by
  simp [combine]
theorem combine_allowAndDeny (es) :
    combine .allowAndDeny es = true ↔ Eff.allow ∈ es ∧ Eff.deny ∉ es := by
  simp [combine]
theorem combine_priority_none (es) (h : ∀ e ∈ es, e = Eff.indet) : combine .priority es = false := by
  rw [← combine_filter_indet, List.filter_eq_nil_iff.mpr fun e he => by simpa using h e he]; rfl

/-! ### Non-vacuity of the premises of `early_stable` -/

example : ∃ s, Stream.new .allowOverride 5 = some s ∧
    (pushAll s [.indet, .allow]).done = true ∧ [Eff.indet, Eff.allow].length < 5 := by
  refine ⟨_, rfl, ?_, ?_⟩ <;> decide

example : ∃ s, Stream.new .allowAndDeny 6 = some s ∧
    (pushAll s [.allow, .allow, .deny]).done = true ∧ (pushAll s [.allow, .allow, .deny]).res = false := by
  refine ⟨_, rfl, ?_, ?_⟩ <;> decide

/-- regression witness (known_findings: F18): pushing on after completion does not flip the verdict -/
example : ∃ s, Stream.new .allowAndDeny 2 = some s ∧ (pushAll s [.deny, .allow]).res = false := by
  refine ⟨_, rfl, ?_⟩; decide
example : ∃ s, Stream.new .priority 2 = some s ∧ (pushAll s [.allow, .deny]).res = true := by
  refine ⟨_, rfl, ?_⟩; decide

end Casbin.C02
