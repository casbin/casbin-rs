import CasbinModel.Lemmas.Config
/-!
# C16 — Model and policy text formats round-trip   (*partial*)

* Policy lines: blanks around a value, and quotes around a comma-free one, do not change the rule a line parses to
  (what `save_policy` writes: C09's `parse_render`); comment and blank lines are skipped by the line loaders.
* Model text, line by line: blank and comment lines between entries, and blanks around the key, the `=` and the value
  (`entry_spacing` in `Lemmas/Config.lean`), do not change what `Config::parse` stores; a line ending in a backslash is
  continued on the next one.
* Whole model texts: a text is a sequence of items (`Item`: blank / comment line, `[header]`, `key = value` on one line
  or continued over any number, blanks wherever blanks may stand); `Config::parse` of the text is the fold of the items'
  meanings, so two texts with the same headers and entries in the same order parse to the same data.
* Definition values: a trailing comment or trailing blanks do not change the assertion `Model::add_def` loads.
* Totality is by construction (total Lean functions, no panic value); the crate's parsers are fuzzed on every run.

Not mechanised: `to_text` (HashMap-ordered token replacement), covered by the differential run.

Test vectors: `rw [String.toList_ofList]` before `decide +kernel`, for the reason given in `Props/C15.lean`.
-/
namespace Casbin.C16
open Casbin

theorem ws_all (ws : Str) (h : ∀ c ∈ ws, isWs c = true) : ∀ c ∈ ws, (decide (c ≠ ',')) = true :=
  decide_ne_of_ws h rfl

/-- a column as it may be written: blanks, the value (quoted or, if comma-free, bare), blanks -/
def looseCol (ws1 : Str) (f : Str) (quoted : Bool) (ws2 : Str) : Str :=
  ws1 ++ (if quoted then '"' :: f ++ ['"'] else f) ++ ws2

structure Col where
  ws1 : Str
  f : Str
  quoted : Bool
  ws2 : Str

def Col.text (c : Col) : Str := looseCol c.ws1 c.f c.quoted c.ws2
def Col.Ok (c : Col) : Prop :=
  (∀ x ∈ c.ws1, isWs x = true) ∧ (∀ x ∈ c.ws2, isWs x = true) ∧ SafeField c.f ∧ (',' ∈ c.f → c.quoted = true)

theorem Col.Ok.goodCol {c : Col} (h : c.Ok) : GoodCol c.text := by
  obtain ⟨ws1, f, quoted, ws2⟩ := c
  obtain ⟨h1, h2, hf, hq⟩ := h
  cases quoted
  · exact goodCol_bare h1 h2 hf fun h => by cases hq h
  · exact goodCol_quoted h1 h2 hf.noQuote

theorem Col.Ok.value {c : Col} (h : c.Ok) : unquote (trim c.text) = c.f := by
  obtain ⟨ws1, f, quoted, ws2⟩ := c
  cases quoted
  · exact unquote_trim_bare h.1 h.2.1 h.2.2.1
  · exact unquote_trim_quoted h.1 h.2.1

/-- **CSV layout independence**, stated of `csvCols` with `parseCsvLine`'s fuel and post-processing: `parseCsvLine`
without its initial `trim` and its tests for an empty or `#` line, which `parseCsvLine_cols` (`Lemmas/Csv.lean`) adds -/
theorem csv_layout_independent (cols : List Col) (hne : cols ≠ []) (hok : ∀ c ∈ cols, c.Ok) :
    (csvCols (2 * (joinWith [','] (cols.map Col.text)).length + 3) (joinWith [','] (cols.map Col.text)) false).map
        (fun c => unquote (trim c)) = cols.map (·.f) := by
  have hg : ∀ c ∈ cols.map Col.text, GoodCol c := List.forall_mem_map.mpr fun x hx => (hok x hx).goodCol
  obtain ⟨c, cs, rfl⟩ := List.exists_cons_of_ne_nil hne
  simp only [List.map_cons, joinWith_cons, List.singleton_append] at hg ⊢
  rw [csvCols_parse _ _ hg, ← List.map_cons, ← List.map_cons, List.map_map]
  -- `rw` first: against `(f ∘ g) x` the unifier would unfold `unquote` before `∘`
  exact List.map_congr_left fun x hx => by rw [Function.comp_apply]; exact (hok x hx).value

/-- comment and blank lines never become rules, blanks around them or not (the adapters' `load_policy_line` tests the
untrimmed line first, then calls `parse_csv_line`) -/
theorem comment_lines_skipped (line : Str) (h : (trim line).isEmpty = true ∨ (trim line).head? = some '#') :
    parseCsvLine line = none := by
  unfold parseCsvLine
  rcases h with h | h <;> simp [h]

/-- regression for the repaired blank-after-closing-quote defect (F19) -/
example : parseCsvLine "p, \"a, b\" , c".toList = some ["p".toList, "a, b".toList, "c".toList] := by
  repeat rw [String.toList_ofList]
  decide +kernel

/-! ### model text -/

/-- **blank and comment lines are skipped** wherever they stand between entries -/
theorem junk_lines_skipped (junk : List Str) (hj : ∀ l ∈ junk, IsJunk l) (rest : List Str) (sec : Str)
    (data : CfgData) (fuel : Nat) :
    parseLines (fuel + junk.length) (junk ++ rest) sec data = parseLines fuel rest sec data := by
  induction junk with
  | nil => rfl
  | cons l ls ih =>
    rw [List.length_cons, ← Nat.add_assoc, List.cons_append, parseLines_junk (hj l List.mem_cons_self)]
    exact ih fun x hx => hj x (List.mem_cons_of_mem _ hx)

/-- **a continuation line is appended to the value**: backslash dropped, blanks before it and around the next line
removed, no separator inserted -/
theorem continuation_joins (f : Nat) (a nxt : Str) (rest : List Str) (ns : Str)
    (h1 : (trim nxt).isEmpty = false) (h2 : isComment (trim nxt) = false) (h3 : isSectionLine (trim nxt) = false)
    (h4 : (trimR a ++ trim nxt).getLast? ≠ some '\\') :
    contLoop (f + 2) (a ++ ['\\']) (nxt :: rest) ns = (trimR a ++ trim nxt, rest, ns) := by
  rw [contLoop_backslash, h1, h2, h3]
  exact contLoop_stop h4 ..

/-- **a blank or comment line right after a continued line is consumed and is no part of the value**, which ends there
unless the text so far ends in another backslash; what follows is a new entry (the reference implementation's reading:
`examples/testini.ini`, `multi5`) -/
theorem continuation_skips_junk (f : Nat) (a junk : Str) (rest : List Str) (ns : Str)
    (hj : (trim junk).isEmpty = true ∨ isComment (trim junk) = true) :
    contLoop (f + 1) (a ++ ['\\']) (junk :: rest) ns = contLoop f (trimR a) rest ns := by
  rw [contLoop_backslash]
  rcases hj with h | h <;> simp [h]

example : IsJunk "  # comment".toList := by rw [String.toList_ofList]; exact Or.inr (by decide +kernel)
example : parseConfig "[a]\n\n# c\nk = v\n".toList = parseConfig "[a]\nk=v".toList := by
  repeat rw [String.toList_ofList]
  decide +kernel
/-- the shipped multi-line matcher layout parses like the single-line one (modulo the blanks a continuation removes) -/
example : (parseConfig "[matchers]\nm = a && \\\n  b".toList) = some [("matchers".toList, [("m".toList, "a &&b".toList)])] := by
  repeat rw [String.toList_ofList]
  decide +kernel
/-- boundary: a continuation inside a policy_effect value joins without a separator, which the effector does not
recognise (the layout grammar therefore splits matchers only) -/
example : (parseConfig "[policy_effect]\ne = some(where (p.eft == allow)) && \\\n !some(where (p.eft == deny))".toList)
    = some [("policy_effect".toList, [("e".toList, "some(where (p.eft == allow)) &&!some(where (p.eft == deny))".toList)])] := by
  repeat rw [String.toList_ofList]
  decide +kernel

/-! ### a whole model text, whatever its layout -/

/-- a middle piece of a continued value: `wsC v wsA \ wsB` on a line of its own -/
structure Seg where
  wsC : Str
  v : Str
  wsA : Str
  wsB : Str

def Seg.line (s : Seg) : Str := s.wsC ++ (s.v ++ s.wsA ++ ['\\']) ++ s.wsB

def Seg.Ok (s : Seg) : Prop := AllWs s.wsC ∧ AllWs s.wsA ∧ AllWs s.wsB ∧ PieceOk s.v
instance : DecidablePred Seg.Ok := fun s => by unfold Seg.Ok PieceOk; infer_instance

/-- one item of a model text as it may be written (`Casbin.Item` is the regex item of `KeyMatch.lean`: qualify where
both namespaces are open) -/
inductive Item where
  /-- a blank or comment line -/
  | junk (l : Str)
  /-- `[name]` with blanks around it -/
  | header (ws1 name ws2 : Str)
  /-- `key = value` with blanks at the four places blanks may stand -/
  | entry (ws1 k ws2 ws3 v ws4 : Str)
  /-- `key = v1 \` continued on the next line by `v2` -/
  | entryCont (ws1 k ws2 ws3 v1 wsA wsB wsC v2 wsD : Str)
  /-- a value continued over any number of lines: `key = v0 \`, then the middle pieces (`Seg`), then the last piece -/
  | entryContN (ws1 k ws2 ws3 v0 wsA wsB : Str) (segs : List Seg) (wsC vl wsD : Str)

def Item.lines : Item → List Str
  | .junk l => [l]
  | .header ws1 name ws2 => [ws1 ++ ('[' :: name ++ [']']) ++ ws2]
  | .entry ws1 k ws2 ws3 v ws4 => [ws1 ++ (k ++ ws2 ++ ['='] ++ ws3 ++ v) ++ ws4]
  | .entryCont ws1 k ws2 ws3 v1 wsA wsB wsC v2 wsD =>
    [ws1 ++ ((k ++ ws2 ++ ['='] ++ ws3 ++ v1) ++ wsA ++ ['\\']) ++ wsB, wsC ++ v2 ++ wsD]
  | .entryContN ws1 k ws2 ws3 v0 wsA wsB segs wsC vl wsD =>
    (ws1 ++ ((k ++ ws2 ++ ['='] ++ ws3 ++ v0) ++ wsA ++ ['\\']) ++ wsB) :: (segs.map Seg.line ++ [wsC ++ vl ++ wsD])

/-- when the lines are that item: a key is tight, has no `=` and opens no comment or header; every piece of a value is
tight, a later piece opens no comment or header, the last does not end in a backslash -/
def Item.Ok : Item → Prop
  | .junk l => IsJunk l
  | .header ws1 _ ws2 => AllWs ws1 ∧ AllWs ws2
  | .entry ws1 k ws2 ws3 v ws4 =>
    AllWs ws1 ∧ AllWs ws2 ∧ AllWs ws3 ∧ AllWs ws4 ∧
    (k ≠ [] ∧ '=' ∉ k ∧ (∀ c, k.head? = some c → isWs c = false) ∧ (∀ c, k.getLast? = some c → isWs c = false)) ∧
    (v ≠ [] ∧ (∀ c, v.head? = some c → isWs c = false) ∧ (∀ c, v.getLast? = some c → isWs c = false)) ∧
    (∀ c, k.head? = some c → c ≠ '#' ∧ c ≠ ';' ∧ c ≠ '[') ∧ v.getLast? ≠ some '\\'
  | .entryCont ws1 k ws2 ws3 v1 wsA wsB wsC v2 wsD =>
    AllWs ws1 ∧ AllWs ws2 ∧ AllWs ws3 ∧ AllWs wsA ∧ AllWs wsB ∧ AllWs wsC ∧ AllWs wsD ∧
    (k ≠ [] ∧ '=' ∉ k ∧ (∀ c, k.head? = some c → isWs c = false) ∧ (∀ c, k.getLast? = some c → isWs c = false)) ∧
    (v1 ≠ [] ∧ (∀ c, v1.head? = some c → isWs c = false) ∧ (∀ c, v1.getLast? = some c → isWs c = false)) ∧
    (v2 ≠ [] ∧ (∀ c, v2.head? = some c → isWs c = false) ∧ (∀ c, v2.getLast? = some c → isWs c = false)) ∧
    (∀ c, k.head? = some c → c ≠ '#' ∧ c ≠ ';' ∧ c ≠ '[') ∧
    (∀ c, v2.head? = some c → c ≠ '#' ∧ c ≠ ';' ∧ c ≠ '[') ∧ v2.getLast? ≠ some '\\'
  | .entryContN ws1 k ws2 ws3 v0 wsA wsB segs wsC vl wsD =>
    AllWs ws1 ∧ AllWs ws2 ∧ AllWs ws3 ∧ AllWs wsA ∧ AllWs wsB ∧ AllWs wsC ∧ AllWs wsD ∧
    (k ≠ [] ∧ '=' ∉ k ∧ (∀ c, k.head? = some c → isWs c = false) ∧ (∀ c, k.getLast? = some c → isWs c = false)) ∧
    (v0 ≠ [] ∧ (∀ c, v0.head? = some c → isWs c = false) ∧ (∀ c, v0.getLast? = some c → isWs c = false)) ∧
    (∀ c, k.head? = some c → c ≠ '#' ∧ c ≠ ';' ∧ c ≠ '[') ∧
    (∀ s ∈ segs, s.Ok) ∧ PieceOk vl ∧ vl.getLast? ≠ some '\\'
instance : DecidablePred Item.Ok := fun i => by cases i <;> unfold Item.Ok IsJunk PieceOk <;> infer_instance

/-- what the item means, on the current section and the data so far -/
def Item.step : Str × CfgData → Item → Str × CfgData
  | (sec, d), .junk _ => (sec, d)
  | (_, d), .header _ name _ => (name, d)
  | (sec, d), .entry _ k _ _ v _ => (sec, addConfig d sec k v)
  | (sec, d), .entryCont _ k _ _ v1 _ _ _ v2 _ => (sec, addConfig d sec k (v1 ++ v2))
  | (sec, d), .entryContN _ k _ _ v0 _ _ segs _ vl _ => (sec, addConfig d sec k (v0 ++ (segs.map Seg.v).flatten ++ vl))

/-- the continuation loop on a first piece `acc wsA \`, the middle lines `segs` and the last line `wsC vl wsD`: the
value is the pieces put together with nothing between them (fuel: a round per line, and one unit to spare) -/
theorem contLoop_chain (segs : List Seg) (hs : ∀ s ∈ segs, s.Ok) (acc wsA : Str) (hA : AllWs wsA)
    (hacc : ∀ c, acc.getLast? = some c → isWs c = false)
    (wsC vl wsD : Str) (hC : AllWs wsC) (hD : AllWs wsD) (hvl : PieceOk vl) (hnb : vl.getLast? ≠ some '\\')
    (rest : List Str) (ns : Str) (fuel : Nat) (hf : segs.length + 2 ≤ fuel) :
    contLoop fuel (acc ++ wsA ++ ['\\']) (segs.map Seg.line ++ (wsC ++ vl ++ wsD) :: rest) ns =
      (acc ++ (segs.map Seg.v).flatten ++ vl, rest, ns) := by
  obtain ⟨f, rfl⟩ := exists_add_one_of_lt hf
  induction segs generalizing acc wsA f with
  | nil =>
    rw [List.map_nil, List.nil_append, List.map_nil, List.flatten_nil, List.append_nil, contLoop_piece hacc hA hC hD hvl,
      contLoop_stop (by rwa [getLast?_append_ne _ _ hvl.1])]
  | cons s segs ih =>
    obtain ⟨f, rfl⟩ := exists_add_one_of_lt (Nat.le_of_succ_le_succ hf)
    obtain ⟨hsC, hsA, hsB, hsv⟩ := hs s List.mem_cons_self
    -- this round reads the middle line as one piece `v wsA \` (`PieceOk.continued`); the next finds its backslash at
    -- the end of `acc ++ v ++ wsA ++ [\]`
    rw [List.map_cons, List.cons_append, Seg.line, contLoop_piece hacc hA hsC hsB (hsv.continued s.wsA),
      ← List.append_assoc, ← List.append_assoc,
      ih (fun x hx => hs x (List.mem_cons_of_mem _ hx)) (acc ++ s.v) s.wsA hsA
        (by rw [getLast?_append_ne _ _ hsv.1]; exact hsv.2.2.1) f (Nat.le_of_succ_le_succ hf),
      List.map_cons, List.flatten_cons, List.append_assoc acc]

theorem parseLines_cont {ws1 k ws2 ws3 v0 wsA wsB : Str} {segs : List Seg} {wsC vl wsD : Str}
    (h : (Item.entryContN ws1 k ws2 ws3 v0 wsA wsB segs wsC vl wsD).Ok) (f : Nat) (rest : List Str) (sec : Str) (d : CfgData) :
    parseLines (f + 1) ((Item.entryContN ws1 k ws2 ws3 v0 wsA wsB segs wsC vl wsD).lines ++ rest) sec d =
      parseLines f rest sec (addConfig d sec k (v0 ++ (segs.map Seg.v).flatten ++ vl)) := by
  obtain ⟨h1, h2, h3, hA, hB, hC, hD, ⟨hk1, hke, hk2, hk3⟩, hv0, hkh, hsegs, hvl, hvlb⟩ := h
  have hk : Tight k := ⟨hk1, hk2, hk3⟩
  have hcore := tight_core hk hv0 ws2 ws3
  show parseLines (f + 1) (_ :: (segs.map Seg.line ++ [_]) ++ rest) sec d = _
  rw [List.cons_append, List.append_assoc (segs.map Seg.line), List.singleton_append]
  refine parseLines_entry f sec d h2 h3 hk hke hkh (Tight.append hv0 hvl.tight _) (by rwa [getLast?_append_ne _ _ hvl.1])
    ((hcore.append tight_backslash wsA).trim_pad h1 hB)
    (List.prefix_append_of_prefix (List.prefix_append_of_prefix (key_prefix ..))) ?_
  rw [contLoop_chain segs hsegs _ wsA hA hcore.2.2 wsC vl wsD hC hD hvl hvlb rest [] _ (by simp),
    List.append_assoc _ v0, List.append_assoc _ (v0 ++ _)]

theorem parseLines_item {it : Item} (h : it.Ok) (f : Nat) (rest : List Str) (sec : Str) (d : CfgData) :
    parseLines (f + 1) (it.lines ++ rest) sec d = parseLines f rest (it.step (sec, d)).1 (it.step (sec, d)).2 := by
  cases it with
  | junk l => exact parseLines_junk h ..
  | header ws1 name ws2 => exact parseLines_header h.1 h.2 ..
  | entry ws1 k ws2 ws3 v ws4 =>
    obtain ⟨h1, h2, h3, h4, ⟨hk1, hke, hk2, hk3⟩, hv, hkh, hvl⟩ := h
    have hk : Tight k := ⟨hk1, hk2, hk3⟩
    exact parseLines_entry f sec d h2 h3 hk hke hkh hv hvl ((tight_core hk hv ws2 ws3).trim_pad h1 h4)
      (key_prefix ..) (contLoop_stop (by rwa [getLast?_append_ne _ _ hv.1]) ..)
  | entryCont ws1 k ws2 ws3 v1 wsA wsB wsC v2 wsD =>
    -- the case of `entryContN` without middle pieces
    obtain ⟨h1, h2, h3, hA, hB, hC, hD, hk, hv1, hv2, hkh, hv2h, hv2l⟩ := h
    have := parseLines_cont (segs := [])
      ⟨h1, h2, h3, hA, hB, hC, hD, hk, hv1, hkh, List.forall_mem_nil _, ⟨hv2.1, hv2.2.1, hv2.2.2, hv2h⟩, hv2l⟩ f rest sec d
    rwa [List.map_nil, List.flatten_nil, List.append_nil] at this
  | entryContN => exact parseLines_cont h ..

/-- **every line of a model text means what it says, whatever the layout**: parsing is folding the items' meanings -/
theorem parse_items (items : List Item) (hok : ∀ i ∈ items, i.Ok) (sec : Str) (data : CfgData) (fuel : Nat)
    (hf : items.length ≤ fuel) :
    parseLines fuel (items.flatMap Item.lines) sec data = some (items.foldl Item.step (sec, data)).2 := by
  induction items generalizing sec data fuel with
  | nil => cases fuel <;> rfl
  | cons it rest ih =>
    obtain ⟨f, rfl⟩ := exists_add_one_of_lt hf
    rw [List.flatMap_cons, parseLines_item (hok it List.mem_cons_self), List.foldl_cons]
    exact ih (fun i hi => hok i (List.mem_cons_of_mem _ hi)) _ _ f (Nat.le_of_succ_le_succ hf)

/-- what an item contributes, layout forgotten -/
def Item.content : Item → Option (Str ⊕ (Str × Str))
  | .junk _ => none
  | .header _ name _ => some (.inl name)
  | .entry _ k _ _ v _ => some (.inr (k, v))
  | .entryCont _ k _ _ v1 _ _ _ v2 _ => some (.inr (k, v1 ++ v2))
  | .entryContN _ k _ _ v0 _ _ segs _ vl _ => some (.inr (k, v0 ++ (segs.map Seg.v).flatten ++ vl))

def stepContent : Str × CfgData → Str ⊕ (Str × Str) → Str × CfgData
  | (_, d), .inl name => (name, d)
  | (sec, d), .inr (k, v) => (sec, addConfig d sec k v)

theorem fold_content (items : List Item) (st : Str × CfgData) :
    items.foldl Item.step st = (items.filterMap Item.content).foldl stepContent st := by
  induction items generalizing st with
  | nil => rfl
  | cons it rest ih =>
    obtain ⟨sec, d⟩ := st
    -- both folds compute their first step; what is left is the induction hypothesis
    cases it <;> exact ih _

/-- **layout independence of a whole model text**: the same headers and entries in the same order give the same data -/
theorem text_layout_independent (a b : List Item) (ha : ∀ i ∈ a, i.Ok) (hb : ∀ i ∈ b, i.Ok)
    (h : a.filterMap Item.content = b.filterMap Item.content) :
    parseLines (a.length + 1) (a.flatMap Item.lines) [] [] = parseLines (b.length + 1) (b.flatMap Item.lines) [] [] := by
  rw [parse_items a ha [] [] _ (Nat.le_succ _), parse_items b hb [] [] _ (Nat.le_succ _), fold_content, fold_content, h]

/-! #### from lines to the text itself -/

/-- `joinWith ['\n']`, spelt out (a text whose last line too ends in a line break: `splitLines_terminated`) -/
def joinLines : List Str → Str
  | [] => []
  | [l] => l
  | l :: l2 :: ls => l ++ '\n' :: joinLines (l2 :: ls)

theorem splitLines_join (l : Str) (ls : List Str) (h : ∀ x ∈ l :: ls, '\n' ∉ x) :
    splitLines (joinLines (l :: ls)) = l :: ls := by
  unfold splitLines
  induction ls generalizing l with
  | nil => exact splitLines_go_end l (h l List.mem_cons_self)
  | cons l2 ls ih =>
    show splitLines.go [] (l ++ '\n' :: joinLines (l2 :: ls)) = _
    rw [splitLines_go_line l _ (h l List.mem_cons_self), ih l2 fun x hx => h x (List.mem_cons_of_mem _ hx)]

theorem lines_ne_nil (it : Item) : it.lines ≠ [] := by cases it <;> exact List.cons_ne_nil _ _

theorem parseConfig_items (it : Item) (items : List Item) (hok : ∀ i ∈ it :: items, i.Ok)
    (hnl : ∀ i ∈ it :: items, ∀ l ∈ i.lines, '\n' ∉ l) :
    parseConfig (joinLines ((it :: items).flatMap Item.lines)) = some ((it :: items).foldl Item.step ([], [])).2 := by
  obtain ⟨l, ls, hl⟩ := List.exists_cons_of_ne_nil (l := (it :: items).flatMap Item.lines)
    (List.flatMap_cons ▸ List.append_ne_nil_of_left_ne_nil (lines_ne_nil it) _)
  have hsplit := splitLines_join l ls (by
    rw [← hl]; intro x hx
    obtain ⟨i, hi, hx⟩ := List.mem_flatMap.mp hx
    exact hnl i hi x hx)
  rw [← hl] at hsplit
  unfold parseConfig
  rw [hsplit]
  exact parse_items _ hok [] [] _ (Nat.le_succ_of_le (length_le_flatMap _ _ fun i _ => lines_ne_nil i))

/-- **layout independence, stated of the text** (`Config::parse` of the joined lines), whether a value is written on one
line or continued over several -/
theorem model_text_layout_independent (a : Item) (as : List Item) (b : Item) (bs : List Item)
    (ha : ∀ i ∈ a :: as, i.Ok) (hb : ∀ i ∈ b :: bs, i.Ok)
    (hna : ∀ i ∈ a :: as, ∀ l ∈ i.lines, '\n' ∉ l) (hnb : ∀ i ∈ b :: bs, ∀ l ∈ i.lines, '\n' ∉ l)
    (h : (a :: as).filterMap Item.content = (b :: bs).filterMap Item.content) :
    parseConfig (joinLines ((a :: as).flatMap Item.lines)) = parseConfig (joinLines ((b :: bs).flatMap Item.lines)) := by
  rw [parseConfig_items a as ha hna, parseConfig_items b bs hb hnb, fold_content, fold_content, h]

def demoTight : List Item :=
  [.header [] "request_definition".toList [], .entry [] "r".toList [' '] [' '] "sub, obj,act".toList []]
def demoLoose : List Item :=
  [.junk "# model".toList, .header "  ".toList "request_definition".toList " ".toList, .junk [],
   .entryCont " ".toList "r".toList [] "\t ".toList "sub, obj,".toList " ".toList "  ".toList "    ".toList "act".toList "  ".toList]

/-- non-vacuity: a request definition written tightly and written with comments, blank lines and blanks everywhere -/
example :
    parseLines (demoTight.length + 1) (demoTight.flatMap Item.lines) [] [] =
    parseLines (demoLoose.length + 1) (demoLoose.flatMap Item.lines) [] [] := by
  unfold demoTight demoLoose
  repeat rw [String.toList_ofList]
  exact text_layout_independent _ _ (by decide +kernel) (by decide +kernel) (by decide +kernel)

/-- the same two layouts as texts -/
example : joinLines (demoLoose.flatMap Item.lines) = "# model\n  [request_definition] \n\n r=\t sub, obj, \\  \n    act  ".toList := by
  unfold demoLoose
  repeat rw [String.toList_ofList]
  decide +kernel
example : parseConfig "[request_definition]\nr = sub, obj,act".toList =
    parseConfig "# model\n  [request_definition] \n\n r=\t sub, obj, \\  \n    act  ".toList := by
  repeat rw [String.toList_ofList]
  decide +kernel

/-- a matcher written on one line (`demoM1`) and on three (`demoM3`) -/
def demoM1 : List Item :=
  [.header [] "matchers".toList [], .entry [] "m".toList [' '] [' '] "r.sub == p.sub &&r.obj == p.obj &&r.act == p.act".toList []]
def demoM3 : List Item :=
  [.header [] "matchers".toList [],
   .entryContN [] "m".toList [' '] [' '] "r.sub == p.sub &&".toList [' '] []
     [⟨"    ".toList, "r.obj == p.obj &&".toList, [' '], [' ']⟩] "    ".toList "r.act == p.act".toList []]

/-- non-vacuity for values continued over several lines -/
example :
    parseLines (demoM1.length + 1) (demoM1.flatMap Item.lines) [] [] =
    parseLines (demoM3.length + 1) (demoM3.flatMap Item.lines) [] [] := by
  unfold demoM1 demoM3
  repeat rw [String.toList_ofList]
  exact text_layout_independent _ _ (by decide +kernel) (by decide +kernel) (by decide +kernel)

example : joinLines (demoM3.flatMap Item.lines) = "[matchers]\nm = r.sub == p.sub && \\\n    r.obj == p.obj && \\ \n    r.act == p.act".toList := by
  unfold demoM3
  repeat rw [String.toList_ofList]
  decide +kernel

/-! ### Trailing comments on definition lines -/

/-- **a trailing comment does not change a definition**: whatever follows the first `#` (more `#`, `=`, commas) and the
blanks before it are dropped -/
theorem trailing_comment_ignored (sec key v ws c : Str) (hv : ∀ x ∈ v, x ≠ '#') (hws : ∀ x ∈ ws, isWs x = true) :
    addDef sec key (v ++ ws ++ '#' :: c) = addDef sec key v :=
  addDef_congr (removeComment_tail (b := '#' :: c) hv hws fun _ h => (Option.some.inj h).symm) ..

example : addDef "p".toList "p".toList "sub, obj, act   # see issue #12, a = b".toList = addDef "p".toList "p".toList "sub, obj, act".toList := by
  have h := trailing_comment_ignored "p".toList "p".toList "sub, obj, act".toList "   ".toList " see issue #12, a = b".toList
  repeat rw [String.toList_ofList] at h
  repeat rw [String.toList_ofList]
  exact h (by decide +kernel) (by decide +kernel)

/-- **blanks or a line end after a definition's value do not change it**, also with no comment to cut off (a value
handed to `Model::add_def` directly, as read from a prompt or a database column) -/
theorem trailing_blanks_ignored (sec key v ws : Str) (hv : ∀ x ∈ v, x ≠ '#') (hws : ∀ x ∈ ws, isWs x = true) :
    addDef sec key (v ++ ws) = addDef sec key v :=
  addDef_congr (List.append_nil (v ++ ws) ▸ removeComment_tail (b := []) hv hws fun _ h => nomatch h) ..

example : addDef "e".toList "e".toList "some(where (p.eft == allow)) \n".toList =
    addDef "e".toList "e".toList "some(where (p.eft == allow))".toList := by
  have h := trailing_blanks_ignored "e".toList "e".toList "some(where (p.eft == allow))".toList " \n".toList
  repeat rw [String.toList_ofList] at h
  repeat rw [String.toList_ofList]
  exact h (by decide +kernel) (by decide +kernel)

end Casbin.C16
