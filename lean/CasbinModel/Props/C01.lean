import CasbinModel.Lemmas.Enforce
import CasbinModel.Enforcer
/-! # C01 — Decisions equal the PERM reference semantics

`enforceCore` (the model of `private_enforce` / `private_enforce_with_context`) against the declarative reference:
per-rule outcomes in stored order (`ruleOutcome`) combined by `combine`.  For every matcher function `m` (in particular
the AST evaluator of `Matcher.lean` over any role graph), every policy and every request.  `ruleOutcome`, the reference
scan `refScan` and `enforceCore_eq` are in `Lemmas/Enforce.lean`. -/
namespace Casbin.C01
open Casbin

/-- the conditions under which evaluation reaches the rule loop -/
structure Ready (c : EvalCfg) (reqLen : Nat) (ex : EffExpr) : Prop where
  enabled : c.enabled = true
  sections : c.sectionsOk = true
  arity : c.rtokens = reqLen
  effect : c.effExpr = some ex
  compiles : c.compiles = true

/-- **Main theorem**: with stored rules, `enforce` is the reference scan. -/
theorem enforce_eq_reference (c : EvalCfg) (reqLen : Nat) (m : MatchFn) (ex : EffExpr)
    (hr : Ready c reqLen ex) (hne : c.policy ≠ []) :
    enforceCore c reqLen m =
      refScan ex [] (c.policy.map (ruleOutcome c.ptokens.length (c.ptokens.idxOf? c.eftToken) m)) := by
  rw [enforceCore_eq, hr.enabled, hr.sections, if_neg (not_not_intro hr.arity), hr.effect, hr.compiles,
    List.isEmpty_eq_false_iff.mpr hne]
  rfl

/-- If no stored rule errs, the early exit never changes the decision.  (`hok` from a per-rule hypothesis:
`C08.map_ruleOutcome_of_ok`.) -/
theorem enforce_errorfree (c : EvalCfg) (reqLen : Nat) (m : MatchFn) (ex : EffExpr)
    (hr : Ready c reqLen ex) (hne : c.policy ≠ [])
    (effs : List Eff)
    (hok : c.policy.map (ruleOutcome c.ptokens.length (c.ptokens.idxOf? c.eftToken) m) = effs.map Except.ok) :
    enforceCore c reqLen m = .ok (combine ex effs) := by
  rw [enforce_eq_reference c reqLen m ex hr hne, hok, ← List.append_nil (effs.map _),
    refScan_ok_append ex effs [] [] (decided_nil ex)]
  exact ite_self _

/-- With no stored rules the matcher is evaluated once with empty policy fields. -/
theorem enforce_empty (c : EvalCfg) (reqLen : Nat) (m : MatchFn) (ex : EffExpr)
    (hr : Ready c reqLen ex) (hemp : c.policy = []) :
    enforceCore c reqLen m =
      (match m (c.ptokens.map (fun _ => "")) with
       | none => .err .eval
       | some b => .ok (combine ex [if b then Eff.allow else Eff.indet])) := by
  rw [enforceCore_eq, hr.enabled, hr.sections, if_neg (not_not_intro hr.arity), hr.effect, hr.compiles, hemp]
  rfl

/-- Never grants what the reference denies, never denies what it grants: the main theorem read both ways. -/
theorem never_grants_denied_never_denies_granted (c : EvalCfg) (reqLen : Nat) (m : MatchFn) (ex : EffExpr)
    (hr : Ready c reqLen ex) (hne : c.policy ≠ []) (v : Bool) :
    enforceCore c reqLen m = .ok v ↔
      refScan ex [] (c.policy.map (ruleOutcome c.ptokens.length (c.ptokens.idxOf? c.eftToken) m)) = .ok v := by
  rw [enforce_eq_reference c reqLen m ex hr hne]

/-- the effect column as the reference reads it, written with `if` on the column text -/
theorem ruleEffect_spec (eftIdx : Option Nat) (b : Bool) (rule : Rule) :
    ruleEffect eftIdx b rule =
      (if b = false then Eff.indet else
        match eftIdx with
        | none => Eff.allow
        | some j => if rule[j]? = some "deny" then Eff.deny else if rule[j]? = some "allow" then Eff.allow else Eff.indet) := by
  cases b
  · rfl
  · cases eftIdx with
    | none => rfl
    | some j =>
      unfold ruleEffect
      simp only [Bool.not_true, Bool.false_eq_true, Bool.true_eq_false, if_false]
      split
      · rename_i h; rw [if_pos h]
      · rename_i h; rw [h]; rfl
      · rename_i h1 h2; rw [if_neg h1, if_neg h2]

/-! Two of the exits before the loop; all of them, in code order, are the right-hand side of `enforceCore_eq`. -/

theorem disabled_grants (c : EvalCfg) (n : Nat) (m : MatchFn) (h : c.enabled = false) :
    enforceCore c n m = .ok true := by unfold enforceCore; simp [h]

theorem wrong_arity_is_error (c : EvalCfg) (n : Nat) (m : MatchFn) (h1 : c.enabled = true)
    (h2 : c.sectionsOk = true) (h : c.rtokens ≠ n) : enforceCore c n m = .err .request := by
  unfold enforceCore; simp [h1, h2, h]

/-- the model's enforcer instantiates the theorems -/
theorem enforcer_enforce_def (e : Enforcer) (call : String → List String → Option Atom)
    (tbl : String → Option Expr) (req : List Val) :
    e.enforce call tbl req = enforceCore (e.evalCfg "" true) req.length (e.matchFn "" call tbl req) := rfl

/-! ### Non-vacuity: an RBAC-with-deny configuration -/

def demoCfg : EvalCfg :=
  { enabled := true, sectionsOk := true, rtokens := 2, ptokens := ["p_sub", "p_obj", "p_eft"],
    effExpr := some .allowAndDeny, eftToken := "p_eft", compiles := true,
    policy := [["alice", "d1", "allow"], ["alice", "d1", "deny"], ["bob", "d1", "allow"]] }

def demoMatch (sub obj : String) : MatchFn := fun rule => some (rule[0]? = some sub && rule[1]? = some obj)

example : Ready demoCfg 2 .allowAndDeny := ⟨rfl, rfl, rfl, rfl, rfl⟩
example : enforceCore demoCfg 2 (demoMatch "alice" "d1") = .ok false := by decide +kernel
example : enforceCore demoCfg 2 (demoMatch "bob" "d1") = .ok true := by decide +kernel
example : refScan .allowAndDeny [] (demoCfg.policy.map
    (ruleOutcome 3 (some 2) (demoMatch "alice" "d1"))) = .ok false := by decide +kernel

end Casbin.C01
