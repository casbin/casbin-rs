import CasbinModel.Enforcer
import CasbinModel.Lemmas.RoleMgr
/-!
Role links vs stored grouping rules (C05), for one role definition of arity 2 or 3.  Both loops of `assertion.rs` are
described by what they do to the edge set of every domain: inserting rules adds exactly the links they imply, removing
rules takes out exactly the links no remaining rule implies.
-/
namespace Casbin

/-- the link `(a, b, d)` a grouping rule stands for -/
def linkOf (arity : Nat) (rule : Rule) : String × String × String :=
  (rule.getD 0 "", rule.getD 1 "", if arity = 3 then rule.getD 2 "" else "DEFAULT")

/-- the rules imply the link `a → b` in domain `d`.  `a ≠ b`: `add_link a a` stores nothing and `delete_link a a` is a
no-op, so a self-link rule implies no link. -/
def Implied (arity : Nat) (rules : List Rule) (d a b : String) : Prop :=
  a ≠ b ∧ ∃ rule ∈ rules, linkOf arity rule = (a, b, d)

/-- every rule has at least `arity` fields (else `linkOp` answers a policy error) -/
def WFRules (arity : Nat) (rules : List Rule) : Prop := ∀ r ∈ rules, arity ≤ r.length

/-- in every domain the graph holds exactly the links the rules imply -/
def SyncedWith (arity : Nat) (rm : RoleMgr String) (rules : List Rule) : Prop :=
  ∀ d a b, (a, b) ∈ (rm.graph d).edges ↔ Implied arity rules d a b

/-- a role definition of two or three places whose rules each have a field for every place, and a manager holding exactly
the links they imply -/
def PolDef.Synced (d : PolDef) (rm : RoleMgr String) : Prop :=
  (d.arity = 2 ∨ d.arity = 3) ∧ WFRules d.arity d.policy ∧ SyncedWith d.arity rm d.policy ∧ rm.WF

theorem Implied.union {arity : Nat} {l l1 l2 : List Rule} (h : ∀ r, r ∈ l ↔ r ∈ l1 ∨ r ∈ l2) (d a b : String) :
    Implied arity l d a b ↔ Implied arity l1 d a b ∨ Implied arity l2 d a b := by
  simp only [Implied, h, or_and_right, exists_or, and_or_left]

theorem Implied.cons {arity : Nat} (r : Rule) (rs : List Rule) (d a b : String) :
    Implied arity (r :: rs) d a b ↔ Implied arity [r] d a b ∨ Implied arity rs d a b :=
  Implied.union (fun x => by simp) d a b

theorem Implied.nil {arity : Nat} {d a b : String} : ¬ Implied arity [] d a b := by
  rintro ⟨_, r, hr, _⟩; cases hr

/-- in the form in which `addLink_edges` and `deleteLink_edges` name a link -/
theorem Implied.single {arity : Nat} {r : Rule} {d x y : String} :
    Implied arity [r] d x y ↔ (linkOf arity r).1 ≠ (linkOf arity r).2.1 ∧ (linkOf arity r).2.2 = d ∧
      x = (linkOf arity r).1 ∧ y = (linkOf arity r).2.1 := by
  unfold Implied
  simp only [List.mem_singleton, exists_eq_left]
  constructor
  · rintro ⟨hne, h⟩; rw [h]; exact ⟨hne, rfl, rfl, rfl⟩
  · rintro ⟨hne, rfl, rfl, rfl⟩; exact ⟨hne, rfl⟩

theorem WFRules.cons {arity : Nat} {r : Rule} {rs : List Rule} (h : WFRules arity (r :: rs)) :
    arity ≤ r.length ∧ WFRules arity rs :=
  List.forall_mem_cons.mp h

theorem linkOp_eq {arity : Nat} (ha : arity = 2 ∨ arity = 3) (ins : Bool) (rm : RoleMgr String) {rule : Rule}
    (hl : arity ≤ rule.length) :
    linkOp arity ins rm rule =
      if ins then .ok (rm.addLink (linkOf arity rule).1 (linkOf arity rule).2.1 (linkOf arity rule).2.2)
      else match rm.deleteLink (linkOf arity rule).1 (linkOf arity rule).2.1 (linkOf arity rule).2.2 with
        | some rm' => .ok rm'
        | none => .error .rbac := by
  unfold linkOp
  rw [if_neg (Nat.not_lt.mpr hl)]
  rcases ha with rfl | rfl <;> rfl

theorem linkOp_insert {arity : Nat} (ha : arity = 2 ∨ arity = 3) {rm : RoleMgr String} (hw : rm.WF) {rule : Rule}
    (hl : arity ≤ rule.length) :
    ∃ rm', linkOp arity true rm rule = .ok rm' ∧ rm'.WF ∧
      ∀ d x y, (x, y) ∈ (rm'.graph d).edges ↔ (x, y) ∈ (rm.graph d).edges ∨ Implied arity [rule] d x y := by
  refine ⟨_, (linkOp_eq ha true rm hl).trans (if_pos rfl), addLink_WF hw _ _ _, fun d x y => ?_⟩
  rw [addLink_edges hw, Implied.single]

/-- `hn`: `delete_link` errs on an unknown name, hence the ends of the link must be nodes -/
theorem linkOp_delete {arity : Nat} (ha : arity = 2 ∨ arity = 3) {rm : RoleMgr String} (hw : rm.WF) {rule : Rule}
    (hl : arity ≤ rule.length)
    (hn : ∀ d x y, Implied arity [rule] d x y → x ∈ (rm.graph d).nodes ∧ y ∈ (rm.graph d).nodes) :
    ∃ rm', linkOp arity false rm rule = .ok rm' ∧ rm'.WF ∧ (∀ d, (rm'.graph d).nodes = (rm.graph d).nodes) ∧
      ∀ d x y, (x, y) ∈ (rm'.graph d).edges ↔ (x, y) ∈ (rm.graph d).edges ∧ ¬ Implied arity [rule] d x y := by
  obtain ⟨rm', hdel⟩ :
      ∃ rm', rm.deleteLink (linkOf arity rule).1 (linkOf arity rule).2.1 (linkOf arity rule).2.2 = some rm' := by
    rw [deleteLink_eq]
    by_cases hab : (linkOf arity rule).1 = (linkOf arity rule).2.1
    · exact ⟨_, if_pos hab⟩
    · exact ⟨_, (if_neg hab).trans (if_pos (hn _ _ _ (Implied.single.mpr ⟨hab, rfl, rfl, rfl⟩)))⟩
  have hop : linkOp arity false rm rule = .ok rm' := by
    rw [linkOp_eq ha false rm hl, if_neg Bool.false_ne_true, hdel]
  refine ⟨rm', hop, deleteLink_WF hw hdel, deleteLink_nodes hdel, fun d x y => ?_⟩
  rw [deleteLink_edges hw hdel, Implied.single]
  -- a stored link is no self-link, so the first clause of `Implied.single` adds nothing
  refine and_congr_right fun he => not_congr (and_iff_right_of_imp ?_).symm
  rintro ⟨-, rfl, rfl⟩
  exact (hw _).no_loop _ he

/-- `buildDef.go` (the loop of `Assertion::build_role_links`) over well-formed rules never fails and adds exactly the
links the rules imply; `buildIncremental.go d true` is the same function (`incrInsert_eq_insertGo`). -/
theorem insertGo_edges {arity : Nat} (ha : arity = 2 ∨ arity = 3) (d : PolDef) (hd : d.arity = arity) :
    ∀ (rules : List Rule) (rm : RoleMgr String), WFRules arity rules → rm.WF →
      ∃ rm', buildDef.go d rm rules = (rm', none) ∧ rm'.WF ∧
        ∀ dd x y, (x, y) ∈ (rm'.graph dd).edges ↔ (x, y) ∈ (rm.graph dd).edges ∨ Implied arity rules dd x y := by
  intro rules
  induction rules with
  | nil => exact fun rm _ hw => ⟨rm, rfl, hw, fun dd x y => by simp [Implied.nil]⟩
  | cons rule rest ih =>
    intro rm hwf hw
    obtain ⟨rm1, h1, hw1, he1⟩ := linkOp_insert ha hw hwf.cons.1
    obtain ⟨rm', h2, hw2, he2⟩ := ih rm1 hwf.cons.2 hw1
    refine ⟨rm', by simp only [buildDef.go, hd, h1, h2], hw2, fun dd x y => ?_⟩
    rw [he2, he1, Implied.cons rule rest, or_assoc]

/-- the incremental loop's own length test repeats the one of `linkOp` -/
theorem incrInsert_eq_insertGo (d : PolDef) (rules : List Rule) :
    ∀ rm : RoleMgr String, buildIncremental.go d true rm rules = buildDef.go d rm rules := by
  induction rules with
  | nil => intro rm; rfl
  | cons rule rest ih =>
    intro rm
    simp only [buildIncremental.go, buildDef.go, Bool.not_true, Bool.false_and, Bool.false_eq_true, if_false]
    by_cases hl : rule.length < d.arity
    · simp [hl, linkOp]
    · simp only [hl, if_false]
      cases linkOp d.arity true rm rule with
      | ok rm' => exact ih rm'
      | error k => rfl

theorem take_two_eq_getD : ∀ (r : Rule), 2 ≤ r.length → r.take 2 = [r.getD 0 "", r.getD 1 ""]
  | _ :: _ :: _, _ => rfl

theorem take_three_eq_getD : ∀ (r : Rule), 3 ≤ r.length → r.take 3 = [r.getD 0 "", r.getD 1 "", r.getD 2 ""]
  | _ :: _ :: _ :: _, _ => rfl

/-- the prefix `build_incremental_role_links` compares is the link -/
theorem take_eq_iff_linkOf {arity : Nat} (ha : arity = 2 ∨ arity = 3) {r r' : Rule}
    (h1 : arity ≤ r.length) (h2 : arity ≤ r'.length) :
    r'.take arity = r.take arity ↔ linkOf arity r' = linkOf arity r := by
  rcases ha with h | h <;> subst h
  · rw [take_two_eq_getD r h1, take_two_eq_getD r' h2]
    simp only [linkOf, List.cons.injEq, Prod.mk.injEq, and_true, Nat.reduceEqDiff, ↓reduceIte]
  · rw [take_three_eq_getD r h1, take_three_eq_getD r' h2]
    simp only [linkOf, List.cons.injEq, Prod.mk.injEq, and_true, ↓reduceIte]

/-- the "still implied" test of `build_incremental_role_links` -/
theorem stillImplied_iff {arity : Nat} (ha : arity = 2 ∨ arity = 3) {pol : List Rule} (hpol : WFRules arity pol)
    {rule : Rule} (hl : arity ≤ rule.length) {dd x y : String} (hr : Implied arity [rule] dd x y) :
    pol.any (fun r => decide (r.length ≥ arity) && decide (r.take arity = rule.take arity)) = true ↔
      Implied arity pol dd x y := by
  obtain ⟨hne, rfl, rfl, rfl⟩ := Implied.single.mp hr
  simp only [List.any_eq_true, Bool.and_eq_true, decide_eq_true_eq, Implied]
  constructor
  · rintro ⟨r', h1, h2, h3⟩; exact ⟨hne, r', h1, (take_eq_iff_linkOf ha hl h2).mp h3⟩
  · rintro ⟨_, r', h1, h2⟩; exact ⟨r', h1, hpol r' h1, (take_eq_iff_linkOf ha hl (hpol r' h1)).mpr h2⟩

/-- `build_incremental_role_links` for removed rules; `d.policy` is what is left -/
theorem removeGo_edges {arity : Nat} (ha : arity = 2 ∨ arity = 3) (d : PolDef) (hd : d.arity = arity)
    (hpol : WFRules arity d.policy) :
    ∀ (rest : List Rule) (rm : RoleMgr String), WFRules arity rest → rm.WF →
      (∀ dd x y, Implied arity rest dd x y → x ∈ (rm.graph dd).nodes ∧ y ∈ (rm.graph dd).nodes) →
      ∃ rm', buildIncremental.go d false rm rest = (rm', none) ∧ rm'.WF ∧
        ∀ dd x y, (x, y) ∈ (rm'.graph dd).edges ↔
          (x, y) ∈ (rm.graph dd).edges ∧ (Implied arity rest dd x y → Implied arity d.policy dd x y) := by
  intro rest
  induction rest with
  | nil => exact fun rm _ hw _ => ⟨rm, rfl, hw, fun dd x y => by simp [Implied.nil]⟩
  | cons rule rest ih =>
    intro rm hwf hw hn
    have hl := hwf.cons.1
    have hl' : ¬ rule.length < arity := Nat.not_lt.mpr hl
    have ha3 : arity ≤ 3 := ha.elim (· ▸ Nat.le_succ 2) (· ▸ Nat.le_refl 3)
    have hn1 : ∀ dd x y, Implied arity [rule] dd x y → _ := fun dd x y h => hn dd x y ((Implied.cons ..).mpr (Or.inl h))
    have hn2 : ∀ dd x y, Implied arity rest dd x y → _ := fun dd x y h => hn dd x y ((Implied.cons ..).mpr (Or.inr h))
    simp only [buildIncremental.go, hd, hl', if_false, Bool.not_false, Bool.true_and, ha3, decide_true]
    split
    · -- a remaining rule still implies the link: nothing to delete
      rename_i hstill
      obtain ⟨rm', h1, hw', he⟩ := ih rm hwf.cons.2 hw hn2
      refine ⟨rm', h1, hw', fun dd x y => ?_⟩
      have hkeep : Implied arity [rule] dd x y → Implied arity d.policy dd x y := fun h =>
        (stillImplied_iff ha hpol hl h).mp hstill
      rw [he, Implied.cons rule rest, or_imp]
      exact and_congr_right fun _ => (and_iff_right hkeep).symm
    · rename_i hstill
      obtain ⟨rm1, h1, hw1, hnodes, he1⟩ := linkOp_delete ha hw hl hn1
      obtain ⟨rm', h2, hw', he⟩ := ih rm1 hwf.cons.2 hw1 (fun dd x y h => by rw [hnodes]; exact hn2 dd x y h)
      refine ⟨rm', by rw [h1]; exact h2, hw', fun dd x y => ?_⟩
      -- no remaining rule implies what `rule` implies
      have hgone : Implied arity [rule] dd x y → ¬ Implied arity d.policy dd x y := fun h h' =>
        hstill ((stillImplied_iff ha hpol hl h).mpr h')
      rw [he, he1, Implied.cons rule rest, or_imp, and_assoc]
      refine and_congr_right fun _ => and_congr_left fun _ => ?_
      exact ⟨fun h1 h2 => absurd h2 h1, fun h1 h2 => hgone h2 (h1 h2)⟩

theorem synced_clear (arity : Nat) (rm : RoleMgr String) : SyncedWith arity rm.clear [] :=
  fun _ _ _ => ⟨fun h => (List.not_mem_nil h).elim, fun h => (Implied.nil h).elim⟩

/-- **the incremental update keeps graph and rules in step.**  The store went from `d.policy` to `pol'`: as sets
`pol' = d.policy ∪ rules` after an insertion, `d.policy = pol' ∪ rules` after a removal (`hmem`).  It never fails, also
when several removed or remaining rules imply the same link, and on self-link rules. -/
theorem incr_synced {d : PolDef} {rm : RoleMgr String} (h : d.Synced rm) (ins : Bool) (rules pol' : List Rule)
    (hrs : ins = true → WFRules d.arity rules)
    (hmem : ∀ r, if ins then r ∈ pol' ↔ r ∈ d.policy ∨ r ∈ rules else r ∈ d.policy ↔ r ∈ pol' ∨ r ∈ rules) :
    ∃ rm', buildIncremental rm { d with policy := pol' } ins rules = (rm', none) ∧
      PolDef.Synced { d with policy := pol' } rm' := by
  obtain ⟨ha, hwf, hs, hw⟩ := h
  have h2 : ¬ d.arity < 2 := by rcases ha with h | h <;> omega
  unfold buildIncremental
  rw [if_neg h2]
  cases ins with
  | true =>
    obtain ⟨rm', h1, hw', he⟩ := insertGo_edges ha { d with policy := pol' } rfl rules rm (hrs rfl) hw
    refine ⟨rm', by rw [incrInsert_eq_insertGo]; exact h1, ha, ?_, fun dd x y => ?_, hw'⟩
    · exact fun r hr => ((hmem r).mp hr).elim (hwf r) (hrs rfl r)
    · rw [he, hs, Implied.union hmem]
  | false =>
    have hold := fun dd x y => Implied.union (arity := d.arity) hmem dd x y
    have hnew : WFRules d.arity pol' := fun r hr => hwf r ((hmem r).mpr (Or.inl hr))
    obtain ⟨rm', h1, hw', he⟩ := removeGo_edges ha { d with policy := pol' } rfl hnew rules rm
      (fun r hr => hwf r ((hmem r).mpr (Or.inr hr))) hw
      (fun dd x y h => (hw dd).edges_in _ ((hs dd x y).mpr ((hold dd x y).mpr (Or.inr h))))
    refine ⟨rm', h1, ha, hnew, fun dd x y => ?_, hw'⟩
    rw [he, hs, hold]
    exact ⟨fun h => h.1.elim id h.2, fun h => ⟨Or.inl h, fun _ => h⟩⟩

theorem insertGo_none_wf (d : PolDef) : ∀ (rules : List Rule) (rm : RoleMgr String),
    (buildDef.go d rm rules).2 = none → WFRules d.arity rules := by
  intro rules
  induction rules with
  | nil => intro _ _ r hr; cases hr
  | cons rule rest ih =>
    intro rm h
    unfold buildDef.go at h
    by_cases hc : rule.length < d.arity
    · rw [linkOp, if_pos hc] at h; cases h
    · cases hl : linkOp d.arity true rm rule with
      | error k => rw [hl] at h; cases h
      | ok rm1 => rw [hl] at h; exact List.forall_mem_cons.mpr ⟨Nat.le_of_not_lt hc, ih rm1 h⟩

/-- **a rebuild of one definition**, whatever the graph held before -/
theorem build_single (rm : RoleMgr String) (d : PolDef) (ha : d.arity = 2 ∨ d.arity = 3) :
    ((buildRoleLinks rm [d]).2 = none ↔ WFRules d.arity d.policy) ∧
    ((buildRoleLinks rm [d]).2 = none → d.Synced (buildRoleLinks rm [d]).1) := by
  have h2 : ¬ d.arity < 2 := by rcases ha with h | h <;> omega
  have hb : buildRoleLinks rm [d] = buildDef.go d rm.clear d.policy := by
    simp only [buildRoleLinks, buildRoleLinks.go, buildDef, h2, if_false]
    rcases buildDef.go d rm.clear d.policy with ⟨rm', _ | k⟩ <;> rfl
  rw [hb]
  have hok : WFRules d.arity d.policy → (buildDef.go d rm.clear d.policy).2 = none ∧
      d.Synced (buildDef.go d rm.clear d.policy).1 := by
    intro hwf
    obtain ⟨rm', h1, hw', he⟩ := insertGo_edges ha d rfl d.policy rm.clear hwf (WF_clear rm)
    rw [h1]
    exact ⟨rfl, ha, hwf, fun dd x y => by rw [he, synced_clear d.arity rm dd x y]; simp [Implied.nil], hw'⟩
  exact ⟨⟨insertGo_none_wf d _ _, fun hwf => (hok hwf).1⟩, fun h => (hok (insertGo_none_wf d _ _ h)).2⟩

end Casbin
