import CasbinModel.Enforcer
import CasbinModel.Lemmas.RoleMgr
/-! The five `*_internal` functions of internal_api.rs as one function `Enforcer.mgmt` of a description `Mgmt` of what
differs between them.  Proved once about it: the model-side part as an update of three fields (`mgmtGo_eq`), and the case
split on auto-save and the adapter's answer (`mgmt_cases`).  `clear_policy`, the tail of the loads and `set_role_manager`
are field updates likewise, the rebuild they end in being `Enforcer.relink`. -/
namespace Casbin

/-! ### The five calls as one function -/

/-- an incremental adapter call: injected fault first, then by kind (`mem`: the memory adapter's part) -/
def AdapterSt.guarded (a : AdapterSt) (mem : AdapterSt → AdapterSt × ARes) : AdapterSt × ARes :=
  let (f, a) := a.nextFault
  match f with
  | .err | .failAfter _ => (a, none)
  | .refuse => (a, some false)
  | .pass =>
    match a.kind with
    | .memory => mem a
    | .string => (a, none)
    | _ => (a, some true)

/-- what one management call differs from another in -/
structure Mgmt where
  sec : String
  pt : String
  /-- links are added (not deleted) for the rules concerned -/
  ins : Bool
  /-- the answer lists the rules concerned (`remove_filtered_policy_internal`) -/
  listed : Bool
  /-- the memory adapter's part -/
  mem : AdapterSt → AdapterSt × ARes
  /-- the model's part: new store, "changed", the rules concerned -/
  step : Store → Store × Bool × List Rule
  /-- what the model's part does to the rule list of `(sec, pt)` when it reports a change -/
  fn : List Rule → List Rule
  event : List Rule → Event

/-- a call's answer when it is not an error (`ret_stopped` below; `ret_changed`, `ret_failed` in Props/C11) -/
def Mgmt.ret (m : Mgmt) (b : Bool) (rs : List Rule) : Res := bif m.listed then .rules b rs else .bool b

/-- the model-side part: store, event, links -/
def Enforcer.mgmtGo (e : Enforcer) (m : Mgmt) : Enforcer × Res :=
  let r := m.step e.store
  let e := { e with store := r.1 }
  let e := if r.2.1 && e.autoNotify then e.emit (m.event r.2.2) else e
  e.linkUpdate r.2.1 m.sec m.pt m.ins r.2.2 (m.ret r.2.1 r.2.2)

/-- adapter first when auto-save is on (early return on `Err` / `Ok(false)`), then `mgmtGo` -/
def Enforcer.mgmt (e : Enforcer) (m : Mgmt) : Enforcer × Res :=
  if e.autoSave then
    match e.adapter.guarded m.mem with
    | (a, none) => ({ e with adapter := a }, .err .adapter)
    | (a, some false) => ({ e with adapter := a }, m.ret false [])
    | (a, some true) => ({ e with adapter := a } : Enforcer).mgmtGo m
  else e.mgmtGo m

def Mgmt.add (sec pt : String) (rule : Rule) : Mgmt where
  sec := sec
  pt := pt
  ins := true
  listed := false
  mem a := let r := OrdSet.add a.lines (tag sec pt rule); ({ a with lines := r.1 }, some r.2)
  step s := ((s.addPolicy sec pt rule).1, (s.addPolicy sec pt rule).2, [rule])
  fn pol := (OrdSet.add pol rule).1
  event _ := .addPolicy sec pt rule

def Mgmt.remove (sec pt : String) (rule : Rule) : Mgmt where
  sec := sec
  pt := pt
  ins := false
  listed := false
  mem a := let r := OrdSet.remove a.lines (tag sec pt rule); ({ a with lines := r.1 }, some r.2)
  step s := ((s.removePolicy sec pt rule).1, (s.removePolicy sec pt rule).2, [rule])
  fn pol := (OrdSet.remove pol rule).1
  event _ := .removePolicy sec pt rule

def Mgmt.addMany (sec pt : String) (rules : List Rule) : Mgmt where
  sec := sec
  pt := pt
  ins := true
  listed := false
  mem a :=
    let ls := rules.map (tag sec pt)
    if ls.any (fun l => l ∈ a.lines) then (a, some false)
    else ({ a with lines := OrdSet.addAll a.lines ls }, some true)
  step s := ((s.addPolicies sec pt rules).1, (s.addPolicies sec pt rules).2, rules)
  fn pol := OrdSet.addAll pol rules
  event _ := .addPolicies sec pt rules

def Mgmt.removeMany (sec pt : String) (rules : List Rule) : Mgmt where
  sec := sec
  pt := pt
  ins := false
  listed := false
  mem a :=
    let ls := rules.map (tag sec pt)
    if ls.any (fun l => l ∉ a.lines) then (a, some false)
    else ({ a with lines := OrdSet.removeAll a.lines ls }, some true)
  step s := ((s.removePolicies sec pt rules).1, (s.removePolicies sec pt rules).2, rules)
  fn pol := OrdSet.removeAll pol rules
  event _ := .removePolicies sec pt rules

def Mgmt.removeFiltered (sec pt : String) (idx : Nat) (vals : List String) : Mgmt where
  sec := sec
  pt := pt
  ins := false
  listed := true
  mem a :=
    if vals.isEmpty then (a, some false) else
    let hit (l : Rule) : Bool := l[0]? = some sec && l[1]? = some pt && filterMatch (idx + 2) vals l
    ({ a with lines := a.lines.filter (fun l => !hit l) }, some (a.lines.any hit))
  step s := s.removeFiltered sec pt idx vals
  fn pol := pol.filter (fun r => !filterMatch idx vals r)
  event rs := .removeFiltered sec pt rs

theorem Enforcer.addPolicy_eq (e : Enforcer) (sec pt : String) (rule : Rule) :
    e.addPolicy sec pt rule = e.mgmt (.add sec pt rule) := by
  unfold Enforcer.addPolicy Enforcer.mgmt Enforcer.mgmtGo; rfl
theorem Enforcer.removePolicy_eq (e : Enforcer) (sec pt : String) (rule : Rule) :
    e.removePolicy sec pt rule = e.mgmt (.remove sec pt rule) := by
  unfold Enforcer.removePolicy Enforcer.mgmt Enforcer.mgmtGo; rfl
theorem Enforcer.addPolicies_eq (e : Enforcer) (sec pt : String) (rules : List Rule) :
    e.addPolicies sec pt rules = e.mgmt (.addMany sec pt rules) := by
  unfold Enforcer.addPolicies Enforcer.mgmt Enforcer.mgmtGo; rfl
theorem Enforcer.removePolicies_eq (e : Enforcer) (sec pt : String) (rules : List Rule) :
    e.removePolicies sec pt rules = e.mgmt (.removeMany sec pt rules) := by
  unfold Enforcer.removePolicies Enforcer.mgmt Enforcer.mgmtGo; rfl
theorem Enforcer.removeFiltered_eq (e : Enforcer) (sec pt : String) (idx : Nat) (vals : List String) :
    e.removeFiltered sec pt idx vals = e.mgmt (.removeFiltered sec pt idx vals) := by
  unfold Enforcer.removeFiltered Enforcer.mgmt Enforcer.mgmtGo; rfl

/-- the five descriptions above; what depends on the store operation goes by cases on this (Lemmas/StoreStep.lean) -/
inductive Mgmt.Std : Mgmt → Prop
  | add (sec pt : String) (rule : Rule) : Std (.add sec pt rule)
  | remove (sec pt : String) (rule : Rule) : Std (.remove sec pt rule)
  | addMany (sec pt : String) (rules : List Rule) : Std (.addMany sec pt rules)
  | removeMany (sec pt : String) (rules : List Rule) : Std (.removeMany sec pt rules)
  | removeFiltered (sec pt : String) (idx : Nat) (vals : List String) : Std (.removeFiltered sec pt idx vals)

/-! ### Normal forms: field updates -/

/-- what one `emit` hands to the watcher -/
def Enforcer.notes (e : Enforcer) (ev : Event) : List Event :=
  if e.hasWatcher then List.replicate e.callbacks ev else []

theorem emit_eq (e : Enforcer) (ev : Event) : e.emit ev = { e with log := e.log ++ e.notes ev } := by
  unfold Enforcer.emit Enforcer.notes
  split
  · rfl
  · rw [List.append_nil]

/-- the role manager a link update leaves, and its error if it fails -/
def linkRes (rm : RoleMgr String) (build : Bool) (s : Store) (changed : Bool) (sec pt : String) (ins : Bool)
    (rules : List Rule) : RoleMgr String × Option ErrKind :=
  if !changed || sec ≠ "g" || !build then (rm, none) else
  match s.find sec pt with
  | none => (rm, none)
  | some d => buildIncremental rm d ins rules

theorem linkRes_of_ne {sec : String} (hsec : sec ≠ "g") (rm : RoleMgr String) (b : Bool) (s : Store) (c : Bool)
    (pt : String) (ins : Bool) (rs : List Rule) : linkRes rm b s c sec pt ins rs = (rm, none) := by
  simp [linkRes, hsec]

theorem linkRes_none {s : Store} {sec pt : String} (hf : s.find sec pt = none) (rm : RoleMgr String) (b c ins : Bool)
    (rs : List Rule) : linkRes rm b s c sec pt ins rs = (rm, none) := by
  unfold linkRes; rw [hf]; split <;> rfl

theorem linkRes_g {s : Store} {pt : String} {d : PolDef} (hf : s.find "g" pt = some d) (rm : RoleMgr String)
    (ins : Bool) (rs : List Rule) : linkRes rm true s true "g" pt ins rs = buildIncremental rm d ins rs := by
  simp [linkRes, hf]

def Res.orErr (ret : Res) : Option ErrKind → Res
  | none => ret
  | some k => .err k

theorem linkUpdate_eq (e : Enforcer) (c : Bool) (sec pt : String) (ins : Bool) (rules : List Rule) (ret : Res) :
    e.linkUpdate c sec pt ins rules ret =
      ({ e with rm := (linkRes e.rm e.autoBuild e.store c sec pt ins rules).1 },
       ret.orErr (linkRes e.rm e.autoBuild e.store c sec pt ins rules).2) := by
  unfold Enforcer.linkUpdate linkRes
  split
  · rfl
  · cases e.store.find sec pt with
    | none => rfl
    | some d =>
      dsimp only
      cases buildIncremental e.rm d ins rules with
      | mk rm' r => cases r <;> rfl

def Enforcer.mgmtNotes (e : Enforcer) (m : Mgmt) : List Event :=
  if (m.step e.store).2.1 && e.autoNotify then e.notes (m.event (m.step e.store).2.2) else []

def Enforcer.mgmtLinks (e : Enforcer) (m : Mgmt) : RoleMgr String × Option ErrKind :=
  linkRes e.rm e.autoBuild (m.step e.store).1 (m.step e.store).2.1 m.sec m.pt m.ins (m.step e.store).2.2

theorem mgmtGo_eq (e : Enforcer) (m : Mgmt) :
    e.mgmtGo m =
      ({ e with store := (m.step e.store).1, log := e.log ++ e.mgmtNotes m, rm := (e.mgmtLinks m).1 },
       (m.ret (m.step e.store).2.1 (m.step e.store).2.2).orErr (e.mgmtLinks m).2) := by
  unfold Enforcer.mgmtGo Enforcer.mgmtNotes Enforcer.mgmtLinks
  dsimp only
  split
  · rw [emit_eq, linkUpdate_eq]; rfl
  · rw [linkUpdate_eq, List.append_nil]

theorem mgmtGo_store (e : Enforcer) (m : Mgmt) : (e.mgmtGo m).1.store = (m.step e.store).1 := by
  rw [mgmtGo_eq]

theorem mgmtGo_quiet (e : Enforcer) (m : Mgmt) (h : (m.step e.store).2.1 = false) :
    e.mgmtGo m = (({ e with store := (m.step e.store).1 } : Enforcer), m.ret false (m.step e.store).2.2) := by
  unfold Enforcer.mgmtGo Enforcer.linkUpdate
  dsimp only
  rw [h]
  rfl

/-- the answer is the call's own or, only after a reported change, an error of the link update -/
theorem mgmtGo_res (e : Enforcer) (m : Mgmt) :
    (e.mgmtGo m).2 = m.ret (m.step e.store).2.1 (m.step e.store).2.2 ∨
    ((m.step e.store).2.1 = true ∧ ∃ k, (e.mgmtGo m).2 = .err k) := by
  cases hflag : (m.step e.store).2.1 with
  | false => rw [mgmtGo_quiet e m hflag]; exact Or.inl rfl
  | true =>
    rw [mgmtGo_eq, hflag]
    cases (e.mgmtLinks m).2 with
    | none => exact Or.inl rfl
    | some k => exact Or.inr ⟨rfl, k, rfl⟩

/-! ### The split on auto-save and the adapter's answer -/

/-- the answers of a call the adapter stopped -/
def stoppedRes (r : Res) : Prop := r = .err .adapter ∨ r = .bool false ∨ r = .rules false []

theorem Mgmt.ret_stopped (m : Mgmt) : stoppedRes (m.ret false []) := by
  unfold Mgmt.ret
  cases m.listed
  · exact Or.inr (Or.inl rfl)
  · exact Or.inr (Or.inr rfl)

theorem mgmt_off (e : Enforcer) (hs : e.autoSave = false) (m : Mgmt) : e.mgmt m = e.mgmtGo m := by
  unfold Enforcer.mgmt
  rw [if_neg (by rw [hs]; exact Bool.false_ne_true)]

/-- a call stops at the adapter (only the adapter's state moves) or is `mgmtGo` on the enforcer holding the adapter's state.
Typical use: `rcases mgmt_cases e m with ⟨res, _, _, h, _⟩ | ⟨a, _, _, h⟩ <;> rw [h]`; the other conjuncts say which adapter
state `a` is (`mgmt_fields_on` uses them). -/
theorem mgmt_cases (e : Enforcer) (m : Mgmt) :
    (∃ res, e.autoSave = true ∧ (e.adapter.guarded m.mem).2 ≠ some true ∧
      e.mgmt m = (({ e with adapter := (e.adapter.guarded m.mem).1 } : Enforcer), res) ∧ stoppedRes res) ∨
    (∃ a, (e.autoSave = true → e.adapter.guarded m.mem = (a, some true)) ∧ (e.autoSave = false → a = e.adapter) ∧
      e.mgmt m = ({ e with adapter := a } : Enforcer).mgmtGo m) := by
  unfold Enforcer.mgmt
  by_cases hs : e.autoSave = true
  · rw [if_pos hs]
    cases e.adapter.guarded m.mem with
    | mk a o =>
      cases o with
      | none => exact Or.inl ⟨_, hs, nofun, rfl, Or.inl rfl⟩
      | some b =>
        cases b with
        | false => exact Or.inl ⟨_, hs, nofun, rfl, m.ret_stopped⟩
        | true => exact Or.inr ⟨a, fun _ => rfl, fun h => absurd (h.symm.trans hs) Bool.false_ne_true, rfl⟩
  · rw [if_neg hs]; exact Or.inr ⟨e.adapter, fun h => absurd h hs, fun _ => rfl, rfl⟩

theorem mgmt_store (e : Enforcer) (m : Mgmt) : (e.mgmt m).1.store = e.store ∨ (e.mgmt m).1.store = (m.step e.store).1 := by
  rcases mgmt_cases e m with ⟨res, _, _, h, _⟩ | ⟨a, _, _, h⟩
  · rw [h]; exact .inl rfl
  · rw [h]; exact .inr (mgmtGo_store _ m)

theorem AdapterSt.nextFault_pass {a : AdapterSt} (hp : a.plan = []) : a.nextFault = (.pass, a) := by
  unfold AdapterSt.nextFault; rw [hp]

theorem guarded_mem (a : AdapterSt) (hk : a.kind = .memory) (hp : a.plan = []) (mem : AdapterSt → AdapterSt × ARes) :
    a.guarded mem = mem a := by
  unfold AdapterSt.guarded; rw [AdapterSt.nextFault_pass hp]; dsimp only; rw [hk]

theorem mgmt_fields_on (e : Enforcer) (m : Mgmt) (has : e.autoSave = true) :
    (e.mgmt m).1.adapter = (e.adapter.guarded m.mem).1 ∧
    (e.mgmt m).1.store = (if (e.adapter.guarded m.mem).2 = some true then (m.step e.store).1 else e.store) ∧
    (e.mgmt m).1.autoSave = true := by
  rcases mgmt_cases e m with ⟨res, _, hno, h, _⟩ | ⟨a, ha, _, h⟩
  · rw [h]; exact ⟨rfl, (if_neg hno).symm, has⟩
  · rw [h, mgmtGo_eq, ha has]; exact ⟨rfl, (if_pos rfl).symm, has⟩

theorem mgmt_rejected (e : Enforcer) (m : Mgmt) (hs : e.autoSave = true) {f : Fault} {rest : List Fault}
    (hp : e.adapter.plan = f :: rest) (hf : f ≠ .pass) :
    e.mgmt m = (({ e with adapter := { e.adapter with plan := rest } } : Enforcer),
      if f = .refuse then m.ret false [] else .err .adapter) := by
  unfold Enforcer.mgmt AdapterSt.guarded AdapterSt.nextFault
  rw [if_pos hs, hp]
  cases f with
  | pass => exact absurd rfl hf
  | _ => rfl

/-! ### The calls that end in a rebuild: `clear_policy`, the loads, `set_role_manager`
(more on `buildRoleLinks`: `build_single` in Lemmas/Links, `buildRoleLinks_cleared` in Lemmas/Shape) -/

/-- a rebuild clears the manager first: of the one handed in it reads the hierarchy limit only -/
theorem buildRoleLinks_congr {rm rm' : RoleMgr String} (h : rm.maxLevel = rm'.maxLevel) (gs : List PolDef) :
    Casbin.buildRoleLinks rm gs = Casbin.buildRoleLinks rm' gs := by
  unfold Casbin.buildRoleLinks RoleMgr.clear
  rw [h]

theorem linkOp_maxLevel {arity : Nat} {rm rm' : RoleMgr String} {rule : Rule}
    (h : linkOp arity true rm rule = .ok rm') : rm'.maxLevel = rm.maxLevel := by
  -- `split at h` on `linkOp`'s nested conditionals is far dearer than naming the cases
  unfold linkOp at h
  by_cases h1 : rule.length < arity
  · rw [if_pos h1] at h; cases h
  rw [if_neg h1] at h
  by_cases h2 : arity = 2
  · rw [if_pos h2] at h; cases h; exact addLink_maxLevel ..
  rw [if_neg h2] at h
  by_cases h3 : arity = 3
  · rw [if_pos h3] at h; cases h; exact addLink_maxLevel ..
  rw [if_neg h3] at h
  by_cases h4 : arity ≥ 4
  · rw [if_pos h4] at h; cases h
  · rw [if_neg h4] at h; cases h; rfl

theorem buildDef_maxLevel (rm : RoleMgr String) (d : PolDef) : (buildDef rm d).1.maxLevel = rm.maxLevel := by
  unfold buildDef
  split
  · rfl
  · generalize d.policy = rules
    induction rules generalizing rm with
    | nil => rfl
    | cons r rs ih =>
      unfold buildDef.go
      cases hl : linkOp d.arity true rm r with
      | error k => rfl
      | ok rm' => exact (ih rm').trans (linkOp_maxLevel hl)

theorem buildRoleLinks_maxLevel (rm : RoleMgr String) (gs : List PolDef) :
    (Casbin.buildRoleLinks rm gs).1.maxLevel = rm.maxLevel := by
  show (Casbin.buildRoleLinks.go rm.clear gs).1.maxLevel = rm.clear.maxLevel
  generalize rm.clear = rm
  induction gs generalizing rm with
  | nil => rfl
  | cons d ds ih =>
    unfold Casbin.buildRoleLinks.go
    have hd := buildDef_maxLevel rm d
    cases hb : buildDef rm d with
    | mk rm' r =>
      rw [hb] at hd
      cases r with
      | none => exact (ih rm').trans hd
      | some k => exact hd

theorem buildRoleLinks_rebuild (rm : RoleMgr String) (gs gs' : List PolDef) :
    Casbin.buildRoleLinks (Casbin.buildRoleLinks rm gs).1 gs' = Casbin.buildRoleLinks rm gs' :=
  buildRoleLinks_congr (buildRoleLinks_maxLevel rm gs) gs'

/-- the rebuild those calls end in, over the role definitions `g` from `rm`: the manager it leaves, and its error; of `e`
only the auto-build switch is read -/
def Enforcer.relink (e : Enforcer) (rm : RoleMgr String) (g : List PolDef) : RoleMgr String × Option ErrKind :=
  if e.autoBuild then Casbin.buildRoleLinks rm g else (rm, none)

theorem relink_on {e : Enforcer} (hb : e.autoBuild = true) (rm : RoleMgr String) (g : List PolDef) :
    e.relink rm g = Casbin.buildRoleLinks rm g := if_pos hb

theorem relink_off {e : Enforcer} (hb : e.autoBuild = false) (rm : RoleMgr String) (g : List PolDef) :
    e.relink rm g = (rm, none) := if_neg (by rw [hb]; exact Bool.false_ne_true)

/-- the shape in which the model writes that rebuild -/
theorem relink_eq (e : Enforcer) :
    (if e.autoBuild then e.buildRoleLinks else (e, none)) =
      ({ e with rm := (e.relink e.rm e.store.g).1 }, (e.relink e.rm e.store.g).2) := by
  unfold Enforcer.relink Enforcer.buildRoleLinks
  by_cases hb : e.autoBuild = true
  · rw [if_pos hb, if_pos hb]
  · rw [if_neg hb, if_neg hb]

/-- the model-side part of `clear_policy` -/
def Enforcer.clearGo (e : Enforcer) : Enforcer × Res :=
  let e := { e with store := e.store.clear }
  let (e, r) := if e.autoBuild then e.buildRoleLinks else (e, none)
  match r with
  | some k => (e, .err k)
  | none => (e.emit .clearPolicy, .unit)

theorem clearPolicy_off (e : Enforcer) (hs : e.autoSave = false) : e.clearPolicy = e.clearGo := by
  unfold Enforcer.clearPolicy
  rw [if_neg (by rw [hs]; exact Bool.false_ne_true)]
  rfl

/-- `mgmt_cases` for `clear_policy` -/
theorem clearPolicy_cases (e : Enforcer) :
    (e.autoSave = true ∧ e.clearPolicy = (({ e with adapter := e.adapter.clear.1 } : Enforcer), .err .adapter)) ∨
    (∃ a, (e.autoSave = true → a = e.adapter.clear.1) ∧ (e.autoSave = false → a = e.adapter) ∧
      e.clearPolicy = ({ e with adapter := a } : Enforcer).clearGo) := by
  unfold Enforcer.clearPolicy
  by_cases hs : e.autoSave = true
  · rw [if_pos hs]
    cases e.adapter.clear with
    | mk a o =>
      cases o with
      | none => exact Or.inl ⟨hs, rfl⟩
      | some u => exact Or.inr ⟨a, fun _ => rfl, fun h => absurd (h.symm.trans hs) Bool.false_ne_true, rfl⟩
  · rw [if_neg hs]; exact Or.inr ⟨e.adapter, fun h => absurd h hs, fun _ => rfl, rfl⟩

theorem clearGo_eq (e : Enforcer) :
    e.clearGo =
      ({ e with store := e.store.clear, rm := (e.relink e.rm e.store.clear.g).1,
                log := e.log ++ if (e.relink e.rm e.store.clear.g).2.isNone then e.notes .clearPolicy else [] },
       Res.unit.orErr (e.relink e.rm e.store.clear.g).2) := by
  unfold Enforcer.clearGo
  dsimp only
  rw [relink_eq { e with store := e.store.clear }]
  show (match (e.relink e.rm e.store.clear.g).2 with | some k => _ | none => _) = _
  cases (e.relink e.rm e.store.clear.g).2 with
  | none => dsimp only; rw [emit_eq]; rfl
  | some k => dsimp only [Option.isNone]; rw [if_neg Bool.false_ne_true, List.append_nil]; rfl

theorem clearPolicy_adapter (e : Enforcer) (hs : e.autoSave = true) : e.clearPolicy.1.adapter = (e.adapter.clear).1 := by
  rcases clearPolicy_cases e with ⟨_, h⟩ | ⟨a, ha, _, h⟩
  · rw [h]
  · rw [h, clearGo_eq]; exact ha hs

/-- the role manager after a load's link build, and what failed (adapter or build) -/
def Enforcer.loadLinks (e : Enforcer) (s : Store) : Option Unit → RoleMgr String × Option ErrKind
  | none => (e.rm, some .adapter)
  | some () => e.relink e.rm s.g

/-- on failure the previous rules are relinked on top of whatever the failed build left -/
theorem finishLoad_eq (e : Enforcer) (old : Store) (a : AdapterSt) (s : Store) (ok : Option Unit) :
    e.finishLoad old a s ok =
      match (e.loadLinks s ok).2 with
      | none => ({ e with adapter := a, store := s, rm := (e.loadLinks s ok).1 }, .unit)
      | some k => ({ e with adapter := a, store := old, rm := (e.relink (e.loadLinks s ok).1 old.g).1 }, .err k) := by
  unfold Enforcer.finishLoad Enforcer.loadLinks Enforcer.relink Enforcer.buildRoleLinks
  cases ok with
  | none => cases e.autoBuild <;> rfl
  | some u =>
    cases e.autoBuild
    · rfl
    · simp only [↓reduceIte]
      cases (Casbin.buildRoleLinks e.rm s.g).2 <;> rfl

theorem finishLoad_frame (e : Enforcer) (old : Store) (a : AdapterSt) (s : Store) (ok : Option Unit) :
    ∃ s' rm', (e.finishLoad old a s ok).1 = { e with adapter := a, store := s', rm := rm' } := by
  rw [finishLoad_eq]
  split <;> exact ⟨_, _, rfl⟩

theorem registerG_acc (ds : List PolDef) : ∀ acc : List (String × Nat),
    registerG acc ds = (registerG [] ds).map (acc ++ ·) := by
  induction ds with
  | nil => intro acc; simp [registerG]
  | cons d rest ih =>
    intro acc
    simp only [registerG]
    split
    · simp only [List.nil_append]
      rw [ih (acc ++ [(d.key, d.arity)]), ih [(d.key, d.arity)]]
      cases registerG [] rest with
      | none => rfl
      | some x => simp [List.append_assoc]
    · rfl

theorem registerG_clear (s : Store) (acc : List (String × Nat)) : registerG acc s.clear.g = registerG acc s.g := by
  simp only [Store.clear]
  induction s.g generalizing acc with
  | nil => rfl
  | cons d rest ih => simp only [List.map_cons, registerG]; split <;> simp [ih]

theorem setRoleManagerWith_eq (e : Enforcer) (rm0 : RoleMgr String) :
    e.setRoleManagerWith rm0 =
      match registerG e.gfuncs e.store.g with
      | none => ({ e with rm := rm0 }, .err .model)
      | some gf =>
        ({ e with rm := (e.relink rm0 e.store.g).1, gfuncs := gf }, Res.unit.orErr (e.relink rm0 e.store.g).2) := by
  unfold Enforcer.setRoleManagerWith
  dsimp only
  cases registerG e.gfuncs e.store.g with
  | none => rfl
  | some gf =>
    dsimp only
    rw [relink_eq { e with rm := rm0, gfuncs := gf }]
    show (match (e.relink rm0 e.store.g).2 with | some k => _ | none => _) = _
    cases (e.relink rm0 e.store.g).2 <;> rfl

/-! ### What a decision reads -/

theorem Enforcer.enforce_congr {e e' : Enforcer} (h1 : e'.store = e.store) (h2 : e'.rm = e.rm) (h3 : e'.defs = e.defs)
    (h4 : e'.gfuncs = e.gfuncs) (h5 : e'.enabled = e.enabled) (call : String → List String → Option Atom)
    (tbl : String → Option Expr) (req : List Val) : e'.enforce call tbl req = e.enforce call tbl req := by
  unfold Enforcer.enforce Enforcer.evalCfg Enforcer.evalCfgKeys Enforcer.matchFn Enforcer.env
  rw [h1, h2, h3, h4, h5]

end Casbin
