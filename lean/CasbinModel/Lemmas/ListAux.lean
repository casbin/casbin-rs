/-! List scans (`takeWhile` / `dropWhile` stop where the run of `p` ends), last elements, prefixes, fuel: shared by the
text lemmas and the key-matcher lemmas. -/
namespace Casbin

theorem span_stop {α : Type} {p : α → Bool} {a b : List α} (ha : ∀ x ∈ a, p x = true)
    (hb : ∀ c, b.head? = some c → p c = false) : (a ++ b).takeWhile p = a ∧ (a ++ b).dropWhile p = b := by
  rw [List.takeWhile_append_of_pos ha, List.dropWhile_append_of_pos ha]
  cases b with
  | nil => simp
  | cons c t => simp [hb c rfl]

theorem span_stop_cons {α : Type} {p : α → Bool} {a : List α} (ha : ∀ x ∈ a, p x = true) {c : α} (hc : p c = false)
    (t : List α) : (a ++ c :: t).takeWhile p = a ∧ (a ++ c :: t).dropWhile p = c :: t :=
  span_stop ha fun _ h => Option.some.inj h ▸ hc

theorem dropWhile_of_head {α : Type} {p : α → Bool} {s : List α} (h : ∀ c, s.head? = some c → p c = false) :
    s.dropWhile p = s :=
  (span_stop (a := []) (List.forall_mem_nil _) h).2

theorem dropEnd_of_last {α : Type} {p : α → Bool} {s : List α} (h : ∀ c, s.getLast? = some c → p c = false) :
    (s.reverse.dropWhile p).reverse = s := by
  rw [dropWhile_of_head (by rwa [List.head?_reverse]), List.reverse_reverse]

theorem getLast?_append_ne {α : Type} (a b : List α) (hb : b ≠ []) : (a ++ b).getLast? = b.getLast? := by
  obtain ⟨c, hc⟩ := Option.isSome_iff_exists.mp (List.getLast?_isSome.mpr hb)
  rw [List.getLast?_append, hc, Option.some_or]

theorem decide_ne_of_not_mem {α : Type} [DecidableEq α] {c : α} {s : List α} (h : c ∉ s) :
    ∀ x ∈ s, decide (x ≠ c) = true :=
  fun _ hx => decide_eq_true (ne_of_mem_of_not_mem hx h)

theorem length_le_flatMap {α β : Type} (f : α → List β) (l : List α) (h : ∀ x ∈ l, f x ≠ []) :
    l.length ≤ (l.flatMap f).length := by
  induction l with
  | nil => exact Nat.le_refl 0
  | cons x l ih =>
    have := List.length_pos_iff.mpr (h x List.mem_cons_self)
    have := ih fun y hy => h y (List.mem_cons_of_mem _ hy)
    rw [List.flatMap_cons, List.length_append, List.length_cons]
    omega

theorem take_eq_iff_prefix {α : Type} [DecidableEq α] (l p : List α) :
    l.take p.length = p ↔ ∃ Z, l = p ++ Z := by
  rw [eq_comm, ← List.prefix_iff_eq_take]
  exact exists_congr fun _ => eq_comm

/-- also takes `h : n + 1 ≤ fuel`, which is what `<` on `Nat` unfolds to -/
theorem exists_add_one_of_lt {n fuel : Nat} (h : n < fuel) : ∃ f, fuel = f + 1 :=
  Nat.exists_eq_add_one.mpr (Nat.zero_lt_of_lt h)

end Casbin
