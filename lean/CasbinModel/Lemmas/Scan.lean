import CasbinModel.Lemmas.Enforce
/-! Indeterminate outcomes never influence the reference scan. -/
namespace Casbin

def isIndetOk : Except ErrKind Eff → Bool
  | .ok .indet => true
  | _ => false

/-- stated for accumulators equal up to `indet`, as the induction needs -/
theorem refScan_filter (ex : EffExpr) (outs : List (Except ErrKind Eff)) :
    ∀ acc acc', acc.filter (· ≠ .indet) = acc'.filter (· ≠ .indet) → decided ex acc = false →
      refScan ex acc outs = refScan ex acc' (outs.filter (fun o => !isIndetOk o)) := by
  have key : ∀ {a a' : List Eff}, a.filter (· ≠ .indet) = a'.filter (· ≠ .indet) →
      combine ex a = combine ex a' ∧ decided ex a = decided ex a' := fun h =>
    ⟨by rw [← combine_filter_indet, h, combine_filter_indet], by rw [← decided_filter_indet, h, decided_filter_indet]⟩
  induction outs with
  | nil => intro acc acc' h _; exact congrArg Out.ok (key h).1
  | cons o rest ih =>
    intro acc acc' h hund
    cases o with
    | error k => rfl
    | ok e =>
      show (if decided ex (acc ++ [e]) then _ else _) = _
      by_cases he : e = .indet
      · subst he
        have h1 : (acc ++ [Eff.indet]).filter (· ≠ .indet) = acc'.filter (· ≠ .indet) := by
          rw [List.filter_append, h]; exact List.append_nil _
        have hd := (key h1).2.trans ((key h).2.symm.trans hund)
        rw [hd]; exact ih _ _ h1 hd
      · have hk : (!isIndetOk (Except.ok e : Except ErrKind Eff)) = true := by
          cases e <;> first | rfl | exact absurd rfl he
        have h1 : (acc ++ [e]).filter (· ≠ .indet) = (acc' ++ [e]).filter (· ≠ .indet) := by
          rw [List.filter_append, List.filter_append, h]
        rw [List.filter_cons_of_pos (p := fun o => !isIndetOk o) hk, (key h1).1, (key h1).2]
        show _ = (if decided ex (acc' ++ [e]) then _ else _)
        cases hd : decided ex (acc' ++ [e]) with
        | true => rfl
        | false => exact ih _ _ h1 ((key h1).2.trans hd)

theorem refScan_eq_of_filter_eq (ex : EffExpr) (outs outs' : List (Except ErrKind Eff))
    (h : outs.filter (fun o => !isIndetOk o) = outs'.filter (fun o => !isIndetOk o)) :
    refScan ex [] outs = refScan ex [] outs' := by
  rw [refScan_filter ex outs [] [] rfl (decided_nil ex), refScan_filter ex outs' [] [] rfl (decided_nil ex), h]

/-- elements whose image `q` rejects anyway can be filtered out before the map -/
theorem filter_map_restrict {α β : Type} (l : List α) (p : α → Bool) (f : α → β) (q : β → Bool)
    (h : ∀ x ∈ l, p x = false → q (f x) = false) :
    (l.map f).filter q = ((l.filter p).map f).filter q := by
  rw [List.filter_map, List.filter_map, List.filter_filter]
  congr 1
  apply List.filter_congr
  intro x hx
  cases hp : p x
  · simpa using h x hx hp
  · simp

/-- rules whose outcome is `ok indet` can be left out before the scan -/
theorem refScan_restrict (ex : EffExpr) (rules : List Rule) (keep : Rule → Bool) (out : Rule → Except ErrKind Eff)
    (h : ∀ r ∈ rules, keep r = false → out r = .ok .indet) :
    refScan ex [] (rules.map out) = refScan ex [] ((rules.filter keep).map out) :=
  refScan_eq_of_filter_eq ex _ _ (filter_map_restrict rules keep out _ fun r hr hk => by rw [h r hr hk]; rfl)

end Casbin
