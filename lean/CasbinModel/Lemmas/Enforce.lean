import CasbinModel.Enforce
import CasbinModel.Lemmas.Effect
/-! The rule loop of `private_enforce` read declaratively: a scan (`refScan`) over the per-rule outcomes, and
`enforceCore` with that scan in place of the stream.  (`refScan_filter`: `Lemmas/Scan.lean`.) -/
namespace Casbin

/-- per-rule outcome: arity check, matcher, effect column -/
def ruleOutcome (ntok : Nat) (eftIdx : Option Nat) (m : MatchFn) (rule : Rule) : Except ErrKind Eff :=
  if rule.length ≠ ntok then .error .policy else
  match m rule with
  | none => .error .eval
  | some b => .ok (ruleEffect eftIdx b rule)

theorem ruleOutcome_of_length_ne {ntok : Nat} {rule : Rule} (eftIdx : Option Nat) (m : MatchFn)
    (h : rule.length ≠ ntok) : ruleOutcome ntok eftIdx m rule = .error .policy := if_pos h

theorem ruleOutcome_of_none {ntok : Nat} {rule : Rule} {m : MatchFn} (eftIdx : Option Nat)
    (hl : rule.length = ntok) (hm : m rule = none) : ruleOutcome ntok eftIdx m rule = .error .eval := by
  unfold ruleOutcome; rw [if_neg (not_not_intro hl), hm]

theorem ruleOutcome_of_some {ntok : Nat} {rule : Rule} {m : MatchFn} {b : Bool} (eftIdx : Option Nat)
    (hl : rule.length = ntok) (hm : m rule = some b) :
    ruleOutcome ntok eftIdx m rule = .ok (ruleEffect eftIdx b rule) := by
  unfold ruleOutcome; rw [if_neg (not_not_intro hl), hm]

/-- effects in stored order; the first error reached *before the result is decided* is the answer, otherwise the
declarative combination -/
def refScan (ex : EffExpr) : List Eff → List (Except ErrKind Eff) → Out ErrKind Bool
  | acc, [] => .ok (combine ex acc)
  | _, .error k :: _ => .err k
  | acc, .ok e :: rest =>
    if decided ex (acc ++ [e]) then .ok (combine ex (acc ++ [e])) else refScan ex (acc ++ [e]) rest

/-- the left side is the tail of `enforceCore` as written, for `enforceCore_eq` -/
theorem ruleLoop_eq_refScan (ex : EffExpr) (n ntok : Nat) (eftIdx : Option Nat) (m : MatchFn) :
    ∀ (rules : List Rule) (pre : List Eff),
      (Stream.after ex n pre).done = false → pre.length + rules.length = n →
      (match ruleLoop ntok eftIdx m (Stream.after ex n pre) rules with
       | .ok s' => (match s'.next with | some v => Out.ok v | none => Out.panic)
       | .err k => Out.err k
       | .panic => Out.panic) =
      refScan ex pre (rules.map (ruleOutcome ntok eftIdx m)) := by
  intro rules
  induction rules with
  | nil =>
    intro pre h hlen
    -- no rule left and not complete: impossible, the capacity is `pre.length`
    have := (after_done_eq_false_iff.mp h).2
    simp at hlen
    omega
  | cons rule rest ih =>
    intro pre h hlen
    simp only [ruleLoop, List.map_cons, ruleOutcome]
    by_cases hl : rule.length ≠ ntok
    · rw [if_pos hl, if_pos hl]; rfl
    · rw [if_neg hl, if_neg hl]
      cases m rule with
      | none => rfl
      | some b =>
        simp only [refScan, push_flag_eq_done, push_after _ h]
        cases h' : (Stream.after ex n (pre ++ [ruleEffect eftIdx b rule])).done with
        | false =>
          rw [(after_done_eq_false_iff.mp h').1]
          exact ih _ h' (by simp at hlen ⊢; omega)
        | true =>
          simp only [if_true, Stream.next, h']
          split
          · rfl
          · -- complete by capacity alone: this was the last rule
            rename_i hd
            have : rest = [] := by
              simp [Stream.after, hd] at h' hlen
              exact List.eq_nil_of_length_eq_zero (by omega)
            subst this; rfl

/-- `private_enforce` with the stream taken out -/
theorem enforceCore_eq (c : EvalCfg) (reqLen : Nat) (m : MatchFn) :
    enforceCore c reqLen m =
      if !c.enabled then .ok true else
      if !c.sectionsOk then .err .model else
      if c.rtokens ≠ reqLen then .err .request else
      match c.effExpr with
      | none => .panic
      | some ex =>
        if !c.compiles then .err .eval else
        if c.policy.isEmpty then
          (match m (c.ptokens.map fun _ => "") with
           | none => .err .eval
           | some b => .ok (combine ex [if b then .allow else .indet]))
        else refScan ex [] (c.policy.map (ruleOutcome c.ptokens.length (c.ptokens.idxOf? c.eftToken) m)) := by
  unfold enforceCore
  -- both sides take the same three exits
  refine ite_congr rfl (fun _ => rfl) fun _ => ?_
  refine ite_congr rfl (fun _ => rfl) fun _ => ?_
  refine ite_congr rfl (fun _ => rfl) fun _ => ?_
  cases c.effExpr with
  | none => rfl
  | some ex =>
    simp only [new_eq_after ex (Nat.lt_of_lt_of_le Nat.zero_lt_one (Nat.le_max_right _ 1))]
    refine ite_congr rfl (fun _ => rfl) fun _ => ite_congr rfl (fun hp => ?_) (fun hp => ?_)
    · cases m (c.ptokens.map fun _ => "") with
      | none => rfl
      | some b =>
        -- a stream of capacity one is complete after the one effect
        rw [List.isEmpty_iff.mp hp, List.length_nil, Nat.max_eq_right (Nat.zero_le 1)]
        simp only [push_after _ (after_nil_done ex Nat.one_pos)]
        simp [Stream.next, Stream.after]
    · have hpos : 0 < c.policy.length := List.length_pos_iff.mpr (fun h => hp (by rw [h]; rfl))
      rw [Nat.max_eq_left hpos, ← ruleLoop_eq_refScan ex _ c.ptokens.length (c.ptokens.idxOf? c.eftToken) m
        c.policy [] (after_nil_done ex hpos) (by simp)]
      cases ruleLoop c.ptokens.length (c.ptokens.idxOf? c.eftToken) m _ c.policy <;> rfl

/-- A run of error-free outcomes is taken in one step: if it decides, the verdict is `combine` of the whole run (a
decision reached inside it is stable, `combine_append_of_decided`); otherwise the scan goes on behind it. -/
theorem refScan_ok_append (ex : EffExpr) (effs : List Eff) (rest : List (Except ErrKind Eff)) :
    ∀ acc, decided ex acc = false →
      refScan ex acc (effs.map .ok ++ rest) =
        if decided ex (acc ++ effs) then .ok (combine ex (acc ++ effs)) else refScan ex (acc ++ effs) rest := by
  induction effs with
  | nil => intro acc h; rw [List.append_nil, h]; rfl
  | cons e es ih =>
    intro acc h
    rw [List.append_cons acc e es]
    show (if decided ex (acc ++ [e]) then _ else refScan ex (acc ++ [e]) (es.map .ok ++ rest)) = _
    cases hd : decided ex (acc ++ [e]) with
    | false => exact ih _ hd
    | true => rw [if_pos rfl, decided_mono _ _ _ hd, if_pos rfl, combine_append_of_decided _ hd]

end Casbin
