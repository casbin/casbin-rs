import CasbinModel.Effect
/-! The effect stream against its declarative reading: what one `push` does, and from it the stream after any
sequence of effects. -/
namespace Casbin

theorem firstDet_append (a b : List Eff) : firstDet (a ++ b) = (firstDet a).or (firstDet b) := by
  induction a with
  | nil => rfl
  | cons e es ih => cases e <;> simp [firstDet, ih]

theorem decided_nil (ex : EffExpr) : decided ex [] = false := by cases ex <;> rfl

theorem decided_append (ex : EffExpr) (a b : List Eff) :
    decided ex (a ++ b) = (decided ex a || decided ex b) := by
  cases ex <;> simp only [decided, firstDet_append, List.contains_append, Option.isSome_or]

theorem decided_mono (expr : EffExpr) (pre suf : List Eff)
    (h : decided expr pre = true) : decided expr (pre ++ suf) = true := by
  rw [decided_append, h, Bool.true_or]

theorem combine_append_of_decided {ex : EffExpr} {pre : List Eff} (suf : List Eff)
    (h : decided ex pre = true) : combine ex (pre ++ suf) = combine ex pre := by
  cases ex <;> simp only [decided, combine, firstDet_append, List.contains_append] at h ⊢
  · rw [h, Bool.true_or]
  · rw [h, Bool.true_or]
  · rw [h, Bool.true_or, Bool.not_true, Bool.and_false, Bool.and_false]
  · rw [Option.or_of_isSome h]

theorem firstDet_filter_indet (l : List Eff) : firstDet (l.filter (· ≠ .indet)) = firstDet l := by
  induction l with
  | nil => rfl
  | cons e es ih =>
    by_cases he : e = .indet
    · subst he; simpa [firstDet] using ih
    · simp [he, firstDet]

theorem combine_filter_indet (ex : EffExpr) (l : List Eff) :
    combine ex (l.filter (· ≠ .indet)) = combine ex l := by
  cases ex <;> simp only [combine, firstDet_filter_indet] <;> simp

theorem decided_filter_indet (ex : EffExpr) (l : List Eff) :
    decided ex (l.filter (· ≠ .indet)) = decided ex l := by
  cases ex <;> simp only [decided, firstDet_filter_indet] <;> simp

/-- `push_effect`'s update of the verdict while the stream is incomplete -/
def EffExpr.step (ex : EffExpr) (r : Bool) (e : Eff) : Bool :=
  match ex with
  | .allowOverride => e = .allow || r
  | .denyOverride => e ≠ .deny && r
  | .allowAndDeny => e ≠ .deny && (e = .allow || r)
  | .priority => if e = .indet then r else e = .allow

theorem combine_snoc {ex : EffExpr} {pre : List Eff} (e : Eff) (h : decided ex pre = false) :
    combine ex (pre ++ [e]) = ex.step (combine ex pre) e := by
  cases ex <;> simp only [decided, combine, EffExpr.step, firstDet_append, List.contains_append] at h ⊢
  · rw [h]; cases e <;> rfl
  · rw [h]; cases e <;> rfl
  · rw [h]; cases e <;> cases pre.contains .allow <;> rfl
  · rw [Option.isNone_iff_eq_none.mp (Option.isSome_eq_false_iff.mp h)]; cases e <;> rfl

theorem push_of_not_done {s : Stream} (e : Eff) (h : s.done = false) :
    (s.push e).1 = { done := decided s.expr [e] || decide (s.idx + 1 = s.cap), res := s.expr.step s.res e,
                     expr := s.expr, idx := s.idx + 1, cap := s.cap } := by
  unfold Stream.push
  rw [if_neg (by simp [h])]
  -- the two stages stay `let`s: inlined, the first is copied into every field of the second
  extract_lets s1 s2
  have h1 : s1 = { s with done := decided s.expr [e], res := s.expr.step s.res e } := by
    obtain ⟨d, r, ex, i, n⟩ := s
    subst h
    cases ex <;> cases e <;> rfl
  simp only [s2, h1]
  by_cases hc : s.idx + 1 = s.cap <;> simp [hc]

theorem push_of_done {s : Stream} (e : Eff) (h : s.done = true) : s.push e = (s, true) := by
  unfold Stream.push; rw [if_pos h]

theorem push_flag_eq_done (s : Stream) (e : Eff) : (s.push e).2 = (s.push e).1.done := by
  by_cases h : s.done = true
  · rw [push_of_done e h]; exact h.symm
  · unfold Stream.push; rw [if_neg h]

theorem pushAll_of_done {s : Stream} (es : List Eff) (h : s.done = true) : pushAll s es = s := by
  induction es with
  | nil => rfl
  | cons e es ih => simp [pushAll, push_of_done e h, ih]

theorem feed_eq_pushAll (s : Stream) (es : List Eff) : feed s es = pushAll s es := by
  induction es generalizing s with
  | nil => rfl
  | cons e es ih =>
    simp only [feed, pushAll]
    split
    · rename_i h
      rw [push_flag_eq_done] at h
      rw [pushAll_of_done es h]
    · exact ih _

/-- What `Stream.new ex n` has become after the effects `pre`, as a record.  Exact while no proper prefix of `pre`
completes the stream (`push_after`).  Once complete, `push` stops counting, so the real stream's `idx` lags behind;
hence `pushAll_after` speaks of `res` and `done` only. -/
def Stream.after (ex : EffExpr) (n : Nat) (pre : List Eff) : Stream :=
  { done := decided ex pre || decide (n ≤ pre.length), res := combine ex pre, expr := ex, idx := pre.length, cap := n }

theorem new_eq_after (ex : EffExpr) {n : Nat} (hn : 0 < n) : Stream.new ex n = some (Stream.after ex n []) := by
  unfold Stream.new Stream.after
  rw [if_neg (by omega), decided_nil, decide_eq_false (by simp; omega)]
  cases ex <;> rfl

theorem after_done_eq_false_iff {ex : EffExpr} {n : Nat} {pre : List Eff} :
    (Stream.after ex n pre).done = false ↔ decided ex pre = false ∧ pre.length < n := by
  simp [Stream.after]

theorem after_nil_done (ex : EffExpr) {n : Nat} (hn : 0 < n) : (Stream.after ex n []).done = false :=
  after_done_eq_false_iff.mpr ⟨decided_nil ex, hn⟩

theorem push_after {ex : EffExpr} {n : Nat} {pre : List Eff} (e : Eff)
    (h : (Stream.after ex n pre).done = false) :
    ((Stream.after ex n pre).push e).1 = Stream.after ex n (pre ++ [e]) := by
  rw [push_of_not_done e h]
  obtain ⟨hd, hn⟩ := after_done_eq_false_iff.mp h
  simp only [Stream.after, combine_snoc e hd, decided_append, hd, Bool.false_or, List.length_append,
    List.length_singleton]
  congr 2
  -- `pre.length + 1 = n` and `n ≤ pre.length + 1` agree because `pre.length < n`
  exact decide_eq_decide.mpr ⟨fun h => h ▸ Nat.le_refl _, fun h => Nat.le_antisymm hn h⟩

/-- `pushAll_new` from any `Stream.after`, as the induction needs -/
theorem pushAll_after (ex : EffExpr) (n : Nat) (es : List Eff) :
    ∀ pre, pre.length ≤ n →
      (pushAll (Stream.after ex n pre) es).res = combine ex ((pre ++ es).take n) ∧
      (pushAll (Stream.after ex n pre) es).done = (decided ex (pre ++ es) || decide (n ≤ (pre ++ es).length)) := by
  induction es with
  | nil => intro pre hl; rw [List.append_nil, List.take_of_length_le hl]; exact ⟨rfl, rfl⟩
  | cons e es ih =>
    intro pre hl
    cases h : (Stream.after ex n pre).done with
    | false =>
      rw [List.append_cons pre e es, pushAll, push_after e h]
      exact ih _ (by rw [List.length_append]; exact (after_done_eq_false_iff.mp h).2)
    | true =>
      -- complete: the stream stays, and the suffix changes neither side
      rw [pushAll_of_done _ h, h, List.take_append, List.take_of_length_le hl, List.length_append]
      simp only [Stream.after, Bool.or_eq_true, decide_eq_true_eq] at h ⊢
      rcases h with hd | hc
      · rw [combine_append_of_decided _ hd, decided_mono _ _ _ hd]; exact ⟨rfl, rfl⟩
      · rw [Nat.sub_eq_zero_of_le hc, List.take_zero, List.append_nil,
          decide_eq_true (Nat.le_trans hc (Nat.le_add_right _ _)), Bool.or_true]
        exact ⟨rfl, rfl⟩

/-- the closed form: after any list, at any capacity (the verdict is read off the first `n` effects) -/
theorem pushAll_new {ex : EffExpr} {n : Nat} {s : Stream} (h : Stream.new ex n = some s) (es : List Eff) :
    (pushAll s es).res = combine ex (es.take n) ∧
    (pushAll s es).done = (decided ex es || decide (n ≤ es.length)) := by
  have hn : 0 < n := by cases n with | zero => cases h | succ k => omega
  cases (new_eq_after ex hn).symm.trans h
  exact pushAll_after ex n es [] (Nat.zero_le n)

end Casbin
