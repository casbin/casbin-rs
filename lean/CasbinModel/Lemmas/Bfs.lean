import CasbinModel.RoleGraph
/-!
The BFS of `RoleGraph.lean` (C03): paths, `dedup`, `visitAll`, then the loop of `has_link`: soundness (`search_sound`)
and, for the code's level-blind depth counter, completeness below the limit with fuel sufficiency (`search_run`).
-/
namespace Casbin
variable {α : Type}

/-- `Path g a b n`: `n` links of `g` lead from `a` to `b` -/
inductive Path (g : Graph α) : α → α → Nat → Prop
  | nil (a) : Path g a a 0
  | cons {a b c n} : (a, b) ∈ g.edges → Path g b c n → Path g a c (n+1)

/-- zero or more links (reflexive; `Reach1` of `Lemmas/Closure`: at least one) -/
def Reach (g : Graph α) (a b : α) : Prop := ∃ n, Path g a b n

theorem Path.mono_on {g g' : Graph α} {P : α → Prop}
    (h : ∀ x y, P x → (x, y) ∈ g.edges → (x, y) ∈ g'.edges ∧ P y) {a b : α} {n : Nat}
    (hp : Path g a b n) (ha : P a) : Path g' a b n := by
  induction hp with
  | nil a => exact Path.nil _
  | cons he _ ih => exact Path.cons (h _ _ ha he).1 (ih (h _ _ ha he).2)

theorem Path.mono {g g' : Graph α} (h : ∀ x y, (x, y) ∈ g.edges → (x, y) ∈ g'.edges) {a b : α} {n : Nat}
    (hp : Path g a b n) : Path g' a b n :=
  hp.mono_on (P := fun _ => True) (fun x y _ he => ⟨h x y he, trivial⟩) trivial

theorem Reach.mono {g g' : Graph α} (h : ∀ x y, (x, y) ∈ g.edges → (x, y) ∈ g'.edges) {a b : α} :
    Reach g a b → Reach g' a b := fun ⟨n, hp⟩ => ⟨n, hp.mono h⟩

variable [DecidableEq α]

theorem Path.append {g : Graph α} {a b c : α} {n m : Nat} (h1 : Path g a b n) (h2 : Path g b c m) :
    Path g a c (n + m) := by
  induction h1 with
  | nil a => exact (Nat.zero_add m).symm ▸ h2
  | cons he _ ih => exact Nat.add_right_comm .. ▸ Path.cons he (ih h2)

theorem mem_succs {g : Graph α} {a b : α} : b ∈ g.succs a ↔ (a, b) ∈ g.edges := by
  simp [Graph.succs]

theorem mem_preds {g : Graph α} {a b : α} : b ∈ g.preds a ↔ (b, a) ∈ g.edges := by
  simp [Graph.preds]

theorem mem_dedup (l : List α) (x : α) : x ∈ dedup l ↔ x ∈ l := by
  induction l with
  | nil => simp [dedup]
  | cons y ys ih =>
    unfold dedup
    split
    · rename_i h; rw [ih, List.mem_cons]
      exact ⟨Or.inr, fun h1 => h1.elim (fun e => e ▸ h) id⟩
    · simp [ih]

theorem nodup_dedup (l : List α) : (dedup l).Nodup := by
  induction l with
  | nil => simp [dedup]
  | cons y ys ih =>
    unfold dedup
    split
    · exact ih
    · rename_i h; exact List.nodup_cons.mpr ⟨fun h1 => h ((mem_dedup _ _).mp h1), ih⟩

theorem visitAll_disc (disc ss : List α) (x : α) :
    x ∈ (visitAll disc ss).2 ↔ x ∈ disc ∨ x ∈ ss := by
  induction ss generalizing disc with
  | nil => simp [visitAll]
  | cons s ss ih =>
    unfold visitAll
    split
    · rename_i h
      rw [ih, List.mem_cons]
      exact Decidable.or_congr_right' fun hx => (or_iff_right fun (e : x = s) => hx (e ▸ h)).symm
    · simp only [ih, List.mem_cons, or_assoc, or_left_comm]

theorem visitAll_new (disc ss : List α) (x : α) :
    x ∈ (visitAll disc ss).1 ↔ x ∈ ss ∧ x ∉ disc := by
  induction ss generalizing disc with
  | nil => simp [visitAll]
  | cons s ss ih =>
    unfold visitAll
    split
    · rename_i h
      rw [ih, List.mem_cons]
      exact and_congr_left fun hx => (or_iff_right fun (e : x = s) => hx (e ▸ h)).symm
    · rename_i h
      simp only [List.mem_cons, ih, not_or]
      by_cases hx : x = s
      · simp [hx, h]
      · simp [hx]

theorem visitAll_nodup (disc ss : List α) : (visitAll disc ss).1.Nodup := by
  induction ss generalizing disc with
  | nil => simp [visitAll]
  | cons s ss ih =>
    unfold visitAll
    split
    · exact ih _
    · simp only [List.nodup_cons]
      refine ⟨?_, ih _⟩
      rw [visitAll_new]; simp

theorem Bfs.next_eq_some {g : Graph α} {maxD : Nat} {b b' : Bfs α} {u : α} (h : b.next g maxD = some (u, b')) :
    ∃ q new disc', b.queue = u :: q ∧ new.Nodup ∧ (∀ x, x ∈ new ↔ x ∈ g.succs u ∧ x ∉ b.disc) ∧
      (∀ x, x ∈ disc' ↔ x ∈ b.disc ∨ x ∈ new) ∧
      b' = { queue := q ++ new, disc := disc', depth := if b.rem - 1 = 0 then b.depth + 1 else b.depth,
             rem := b.rem - 1 + new.length } := by
  unfold Bfs.next at h
  by_cases hd : maxD ≤ b.depth
  · rw [if_pos hd] at h; cases h
  · rw [if_neg hd] at h
    cases hq : b.queue with
    | nil => rw [hq] at h; cases h
    | cons u0 q =>
      rw [hq] at h; cases h
      refine ⟨q, _, _, rfl, visitAll_nodup _ _, visitAll_new _ _, fun x => ?_, rfl⟩
      rw [visitAll_disc, visitAll_new]
      exact Decidable.or_congr_right' fun hx => (and_iff_left hx).symm

/-- loop invariant for soundness -/
structure SInv (g : Graph α) (s : α) (b : Bfs α) : Prop where
  disc_reach : ∀ x ∈ b.disc, Reach g s x
  q_disc : ∀ x ∈ b.queue, x ∈ b.disc

omit [DecidableEq α] in
theorem sinv_init (g : Graph α) (s : α) : SInv g s (Bfs.init s) :=
  ⟨fun _ hx => List.mem_singleton.mp hx ▸ ⟨0, Path.nil _⟩, fun _ hx => hx⟩

theorem sinv_step {g : Graph α} {s : α} {maxD : Nat} {b b' : Bfs α} {u : α}
    (hi : SInv g s b) (hn : b.next g maxD = some (u, b')) : SInv g s b' ∧ Reach g s u := by
  obtain ⟨q, new, disc', hq, -, hnew, hdisc', rfl⟩ := Bfs.next_eq_some hn
  obtain ⟨n, hp⟩ := hi.disc_reach u (hi.q_disc u (hq ▸ List.mem_cons_self))
  refine ⟨⟨fun x hx => ?_, fun x hx => (hdisc' x).mpr ?_⟩, n, hp⟩
  · rcases (hdisc' x).mp hx with h | h
    · exact hi.disc_reach x h
    · exact ⟨n + 1, hp.append (.cons (mem_succs.mp ((hnew x).mp h).1) (.nil _))⟩
  · exact (List.mem_append.mp hx).imp (fun h => hi.q_disc x (hq ▸ List.mem_cons_of_mem _ h)) id

theorem search_sound {g : Graph α} {s t : α} {maxD : Nat} :
    ∀ (fuel : Nat) (b : Bfs α), SInv g s b → search g maxD t fuel b = true → Reach g s t := by
  intro fuel
  induction fuel with
  | zero => intro b _ h; cases h
  | succ fuel ih =>
    intro b hi h
    unfold search at h
    cases hnx : b.next g maxD with
    | none => rw [hnx] at h; cases h
    | some r =>
      obtain ⟨u, b'⟩ := r
      obtain ⟨hi', hr⟩ := sinv_step hi hnx
      rw [hnx] at h
      by_cases hu : u = t
      · exact hu ▸ hr
      · exact ih b' hi' ((if_neg hu).symm.trans h)

/-- Loop invariant for completeness and fuel.  `N` holds every node that can be discovered (the fuel measure).
Ghost state: `popped`, the nodes taken off the queue; `ld u`, the depth counter when `u` was popped; `lab w`, one
more than the counter when `w`'s discoverer was popped (0 for the start).

The counter lags behind the BFS level.  Along a path `s = v₀ → … → vₙ`, `lab vᵢ₊₁ ≤ ld vᵢ + 1 ≤ lab vᵢ + 1` (`p_succ`,
`p_ld`), so `lab vᵢ ≤ i`; a queued `vᵢ` has `depth ≤ lab vᵢ` (`q_lab`): a target at distance `< maxD` is popped
before the counter reaches `maxD` (`not_stop`).  `lab_le` restores `p_succ` for successors already discovered.
Established by `inv_init`, kept by `inv_step`. -/
structure BInv (g : Graph α) (s : α) (N : List α) (b : Bfs α) (popped : List α) (lab ld : α → Nat) : Prop where
  rem_eq : b.rem = b.queue.length
  disc_iff : ∀ x, x ∈ b.disc ↔ x ∈ popped ∨ x ∈ b.queue
  q_lab : ∀ w ∈ b.queue, b.depth ≤ lab w
  p_ld : ∀ u ∈ popped, ld u ≤ lab u ∧ ld u ≤ b.depth
  p_succ : ∀ u ∈ popped, ∀ w ∈ g.succs u, w ∈ b.disc ∧ lab w ≤ ld u + 1
  start : lab s = 0 ∧ s ∈ b.disc
  q_nodup : b.queue.Nodup
  q_disj : ∀ x ∈ b.queue, x ∉ popped
  p_nodup : popped.Nodup
  bound : ∀ x ∈ b.disc, x ∈ N
  lab_le : ∀ w ∈ b.disc, lab w ≤ b.depth + 1

theorem inv_init (g : Graph α) (s : α) (N : List α) (hs : s ∈ N) :
    BInv g s N (Bfs.init s) [] (fun _ => 0) (fun _ => 0) := by
  constructor <;> simp [Bfs.init, hs]

theorem inv_step {g : Graph α} {s : α} {N : List α} {maxD : Nat} {b b' : Bfs α} {popped : List α} {lab ld : α → Nat} {u : α}
    (hN : ∀ e ∈ g.edges, e.2 ∈ N)
    (hi : BInv g s N b popped lab ld) (hn : b.next g maxD = some (u, b')) :
    ∃ lab' ld', BInv g s N b' (u :: popped) lab' ld' := by
  obtain ⟨q, new, disc', hq, hnd, hnew, hdisc', rfl⟩ := Bfs.next_eq_some hn
  -- the nodes discovered in this round get the label `depth + 1`; `u`'s pop depth is recorded
  refine ⟨fun w => if w ∈ b.disc then lab w else b.depth + 1, fun w => if w = u then b.depth else ld w, ?_⟩
  have hqm : ∀ x, x ∈ b.queue ↔ x = u ∨ x ∈ q := fun x => by rw [hq, List.mem_cons]
  have hdisc : ∀ x, x ∈ b.disc ↔ x ∈ popped ∨ x = u ∨ x ∈ q := fun x => by rw [hi.disc_iff, hqm]
  have hqn := List.nodup_cons.mp (hq ▸ hi.q_nodup)
  have hup : ∀ x ∈ popped, x ≠ u := fun x hx e => hi.q_disj u ((hqm u).mpr (Or.inl rfl)) (e ▸ hx)
  have hrem : b.rem - 1 = q.length := by rw [hi.rem_eq, hq]; rfl
  -- the counter moves only when the rest of the queue is empty
  obtain ⟨d', hd', hd1, hd2, hd3⟩ : ∃ d', (if b.rem - 1 = 0 then b.depth + 1 else b.depth) = d' ∧
      b.depth ≤ d' ∧ d' ≤ b.depth + 1 ∧ ∀ w ∈ q, d' = b.depth := by
    by_cases h0 : b.rem - 1 = 0
    · exact ⟨_, if_pos h0, Nat.le_succ _, Nat.le_refl _, fun w hw =>
        absurd (List.eq_nil_of_length_eq_zero (hrem ▸ h0)) (List.ne_nil_of_mem hw)⟩
    · exact ⟨_, if_neg h0, Nat.le_refl _, Nat.le_succ _, fun _ _ => rfl⟩
  rw [hd']
  constructor <;> try dsimp only
  case rem_eq => rw [List.length_append, hrem]
  case disc_iff =>
    intro x
    rw [hdisc', hdisc, List.mem_cons, List.mem_append]
    simp only [or_assoc, or_left_comm]
  case q_lab =>
    intro w hw
    rcases List.mem_append.mp hw with hw | hw
    · rw [if_pos ((hdisc w).mpr (Or.inr (Or.inr hw))), hd3 w hw]
      exact hi.q_lab w ((hqm w).mpr (Or.inr hw))
    · rw [if_neg ((hnew w).mp hw).2]; exact hd2
  case p_ld =>
    intro x hx
    rcases List.mem_cons.mp hx with rfl | hx
    · rw [if_pos ((hdisc x).mpr (Or.inr (Or.inl rfl))), if_pos rfl]
      exact ⟨hi.q_lab x ((hqm x).mpr (Or.inl rfl)), hd1⟩
    · rw [if_pos ((hdisc x).mpr (Or.inl hx)), if_neg (hup x hx)]
      exact ⟨(hi.p_ld x hx).1, Nat.le_trans (hi.p_ld x hx).2 hd1⟩
  case p_succ =>
    intro x hx w hw
    rw [hdisc']
    rcases List.mem_cons.mp hx with rfl | hx
    · rw [if_pos rfl]
      by_cases hwd : w ∈ b.disc
      · rw [if_pos hwd]; exact ⟨Or.inl hwd, hi.lab_le w hwd⟩
      · rw [if_neg hwd]; exact ⟨Or.inr ((hnew w).mpr ⟨hw, hwd⟩), Nat.le_refl _⟩
    · have h1 := hi.p_succ x hx w hw
      rw [if_pos h1.1, if_neg (hup x hx)]
      exact ⟨Or.inl h1.1, h1.2⟩
  case start => rw [if_pos hi.start.2, hdisc']; exact ⟨hi.start.1, Or.inl hi.start.2⟩
  case q_nodup =>
    rw [List.nodup_append]
    exact ⟨hqn.2, hnd, fun a ha c hc e => ((hnew c).mp hc).2 ((hdisc c).mpr (Or.inr (Or.inr (e ▸ ha))))⟩
  case q_disj =>
    intro x hx hxp
    rcases List.mem_append.mp hx with hx' | hx'
    · exact (List.mem_cons.mp hxp).elim (fun e => hqn.1 (e ▸ hx')) (hi.q_disj x ((hqm x).mpr (Or.inr hx')))
    · exact ((hnew x).mp hx').2 ((hdisc x).mpr ((List.mem_cons.mp hxp).elim (Or.inr ∘ Or.inl) Or.inl))
  case p_nodup => exact List.nodup_cons.mpr ⟨fun h => hup u h rfl, hi.p_nodup⟩
  case bound =>
    intro x hx
    rcases (hdisc' x).mp hx with hx | hx
    · exact hi.bound x hx
    · exact hN (u, x) (mem_succs.mp ((hnew x).mp hx).1)
  case lab_le =>
    intro w _
    by_cases hw : w ∈ b.disc
    · rw [if_pos hw]; exact Nat.le_trans (hi.lab_le w hw) (Nat.succ_le_succ hd1)
    · rw [if_neg hw]; exact Nat.succ_le_succ hd1

theorem next_ne_none {g : Graph α} {maxD : Nat} {b : Bfs α} {w : α}
    (hw : w ∈ b.queue) (hd : b.depth < maxD) : b.next g maxD ≠ none := by
  unfold Bfs.next
  rw [if_neg (Nat.not_le.mpr hd)]
  cases hq : b.queue with
  | nil => rw [hq] at hw; cases hw
  | cons u q => nofun

/-- `j` bounds `lab v`, i.e. `v`'s position on a path from `s`: with `n` more links to a `t` not yet popped and
`j + n < maxD`, the loop does not stop in this state. -/
theorem not_stop {g : Graph α} {s : α} {N : List α} {maxD : Nat} {b : Bfs α} {popped : List α} {lab ld : α → Nat} {t : α}
    (hi : BInv g s N b popped lab ld) (htp : t ∉ popped)
    {v : α} {n : Nat} (hp : Path g v t n) : ∀ j, v ∈ b.disc → lab v ≤ j → j + n < maxD →
    b.next g maxD ≠ none := by
  -- a queued node keeps the loop going; a popped one hands the path to its successor
  have hq : ∀ {a j m}, a ∈ b.queue → lab a ≤ j → j + m < maxD → b.next g maxD ≠ none := fun h hl hj =>
    next_ne_none h (Nat.lt_of_le_of_lt (Nat.le_trans (hi.q_lab _ h) hl) (Nat.lt_of_le_of_lt (Nat.le_add_right _ _) hj))
  induction hp with
  | nil a => exact fun j hv hl hj => ((hi.disc_iff a).mp hv).elim (absurd · htp) (hq · hl hj)
  | @cons a b' c n he _ ih =>
    intro j hv hl hj
    rcases (hi.disc_iff a).mp hv with h | h
    · obtain ⟨h1, h2⟩ := hi.p_succ a h b' (mem_succs.mpr he)
      exact ih htp (j + 1) h1 (Nat.le_trans h2 (Nat.succ_le_succ (Nat.le_trans (hi.p_ld a h).1 hl)))
        (Nat.add_right_comm j 1 n ▸ hj)
    · exact hq h hl hj

/-- Under `N.length < fuel + popped.length` (more fuel than nodes still to pop: each round pops a new member of `N`):
(1) extra fuel changes nothing, so `search` computes what the source's fuel-less `while let` loop computes;
(2) a target not yet popped with a path shorter than `maxD` from `s` is found (`not_stop`). -/
theorem search_run {g : Graph α} {s t : α} {N : List α} {maxD : Nat} (hN : ∀ e ∈ g.edges, e.2 ∈ N) :
    ∀ (fuel : Nat) (b : Bfs α) (popped : List α) (lab ld : α → Nat),
      BInv g s N b popped lab ld → N.length < fuel + popped.length →
      (∀ k, search g maxD t (fuel + k) b = search g maxD t fuel b) ∧
      (t ∉ popped → (∃ L, L < maxD ∧ Path g s t L) → search g maxD t fuel b = true) := by
  intro fuel
  induction fuel with
  | zero =>
    intro b popped lab ld hi hf
    -- the popped nodes are distinct members of `N`
    have hle : popped.length ≤ N.length := List.Nodup.length_le_of_subset hi.p_nodup
      fun x hx => hi.bound x ((hi.disc_iff x).mpr (Or.inl hx))
    exact absurd (Nat.zero_add popped.length ▸ hf) (Nat.not_lt.mpr hle)
  | succ fuel ih =>
    intro b popped lab ld hi hf
    -- `fuel + 1 + k = (fuel + k) + 1`: both sides of the first part unfold one round
    simp only [Nat.add_right_comm fuel 1, search]
    cases hnx : b.next g maxD with
    | none =>
      refine ⟨fun _ => rfl, fun htp ⟨L, hL, hp⟩ => ?_⟩
      exact absurd hnx (not_stop hi htp hp 0 hi.start.2 (Nat.le_of_eq hi.start.1) ((Nat.zero_add L).symm ▸ hL))
    | some r =>
      obtain ⟨u, b'⟩ := r
      by_cases hu : u = t
      · simp [hu]
      · obtain ⟨lab', ld', hi'⟩ := inv_step hN hi hnx
        have h' := ih b' (u :: popped) lab' ld' hi' (Nat.add_right_comm fuel 1 _ ▸ hf)
        simp only [hu, if_false]
        exact ⟨h'.1, fun htp => h'.2 (List.not_mem_cons_of_ne_of_not_mem (Ne.symm hu) htp)⟩

theorem search_complete {g : Graph α} {s t : α} {N : List α} {maxD L : Nat}
    (hN : ∀ e ∈ g.edges, e.2 ∈ N) (hp : Path g s t L) (hL : L < maxD) :
    ∀ (fuel : Nat) (b : Bfs α) (popped : List α) (lab ld : α → Nat),
      BInv g s N b popped lab ld → t ∉ popped → N.length < fuel + popped.length →
      search g maxD t fuel b = true :=
  fun fuel b popped lab ld hi htp hf => (search_run hN fuel b popped lab ld hi hf).2 htp ⟨L, hL, hp⟩

/-- `search_run` at the start state.  `N`: any list holding `s` and every edge target. -/
theorem search_init {g : Graph α} {s : α} {N : List α} {maxD : Nat} (hN : ∀ e ∈ g.edges, e.2 ∈ N) (hs : s ∈ N)
    (t : α) {fuel : Nat} (hf : N.length < fuel) :
    (∀ k, search g maxD t (fuel + k) (Bfs.init s) = search g maxD t fuel (Bfs.init s)) ∧
    ((∃ L, L < maxD ∧ Path g s t L) → search g maxD t fuel (Bfs.init s) = true) :=
  (search_run hN fuel (Bfs.init s) [] _ _ (inv_init g s N hs) hf).imp_right fun h => h List.not_mem_nil

end Casbin
