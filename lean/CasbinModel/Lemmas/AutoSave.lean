import CasbinModel.Lemmas.Mgmt
/-! The split of `mgmt_cases` in the words of each call: with auto-save on a call stops at the adapter, or is the
auto-save-off call on the enforcer holding the adapter's new state (`withSave`), the switch put back afterwards.  The history
theorems (`C14.mgmt_follows`, `C11.mgmt_sound_core`, `C05.gsync_mgmt`) use `mgmt_cases` directly, and so would one for a new
property; `C14.run_on` is `mgmt_on` over `NOp`.  The suffix `2` marks the version that also carries the call's answer. -/
namespace Casbin

def Enforcer.withSave (e : Enforcer) (b : Bool) : Enforcer := { e with autoSave := b }

theorem withSave_autoNotify (e : Enforcer) (b : Bool) : (e.withSave b).autoNotify = e.autoNotify := rfl

/-- the model-side part does not read the auto-save switch -/
theorem mgmtGo_withSave (e : Enforcer) (b : Bool) (m : Mgmt) :
    e.mgmtGo m = (((e.withSave b).mgmtGo m).1.withSave e.autoSave, ((e.withSave b).mgmtGo m).2) := by
  rw [mgmtGo_eq, mgmtGo_eq]; rfl

/-- `mgmt_on` with the call's answer -/
theorem mgmt_on2 (e : Enforcer) (hs : e.autoSave = true) (m : Mgmt) :
    (∃ a res, e.mgmt m = (({ e with adapter := a } : Enforcer), res) ∧ stoppedRes res) ∨
    (∃ a, e.mgmt m =
      (((({ e with adapter := a } : Enforcer).withSave false).mgmt m).1.withSave true,
       ((({ e with adapter := a } : Enforcer).withSave false).mgmt m).2)) := by
  rcases mgmt_cases e m with ⟨res, _, _, h⟩ | ⟨a, _, _, h⟩
  · exact Or.inl ⟨_, res, h⟩
  · refine Or.inr ⟨a, ?_⟩
    rw [h, mgmt_off _ rfl, ← hs]
    exact mgmtGo_withSave _ false m

theorem mgmt_on (e : Enforcer) (hs : e.autoSave = true) (m : Mgmt) :
    (∃ a, (e.mgmt m).1 = ({ e with adapter := a } : Enforcer)) ∨
    (∃ a, (e.mgmt m).1 = (((({ e with adapter := a } : Enforcer).withSave false).mgmt m).1).withSave true) :=
  (mgmt_on2 e hs m).imp (fun ⟨a, _, h, _⟩ => ⟨a, congrArg Prod.fst h⟩) (fun ⟨a, h⟩ => ⟨a, congrArg Prod.fst h⟩)

theorem addPolicy_on (e : Enforcer) (hs : e.autoSave = true) (sec pt : String) (rule : Rule) :
    (∃ a, (e.addPolicy sec pt rule).1 = ({ e with adapter := a } : Enforcer)) ∨
    (∃ a, (e.addPolicy sec pt rule).1 =
      (((({ e with adapter := a } : Enforcer).withSave false).addPolicy sec pt rule).1).withSave true) := by
  simp only [Enforcer.addPolicy_eq]; exact mgmt_on e hs _

theorem removePolicy_on (e : Enforcer) (hs : e.autoSave = true) (sec pt : String) (rule : Rule) :
    (∃ a, (e.removePolicy sec pt rule).1 = ({ e with adapter := a } : Enforcer)) ∨
    (∃ a, (e.removePolicy sec pt rule).1 =
      (((({ e with adapter := a } : Enforcer).withSave false).removePolicy sec pt rule).1).withSave true) := by
  simp only [Enforcer.removePolicy_eq]; exact mgmt_on e hs _

theorem addPolicies_on (e : Enforcer) (hs : e.autoSave = true) (sec pt : String) (rules : List Rule) :
    (∃ a, (e.addPolicies sec pt rules).1 = ({ e with adapter := a } : Enforcer)) ∨
    (∃ a, (e.addPolicies sec pt rules).1 =
      (((({ e with adapter := a } : Enforcer).withSave false).addPolicies sec pt rules).1).withSave true) := by
  simp only [Enforcer.addPolicies_eq]; exact mgmt_on e hs _

theorem removePolicies_on (e : Enforcer) (hs : e.autoSave = true) (sec pt : String) (rules : List Rule) :
    (∃ a, (e.removePolicies sec pt rules).1 = ({ e with adapter := a } : Enforcer)) ∨
    (∃ a, (e.removePolicies sec pt rules).1 =
      (((({ e with adapter := a } : Enforcer).withSave false).removePolicies sec pt rules).1).withSave true) := by
  simp only [Enforcer.removePolicies_eq]; exact mgmt_on e hs _

theorem removeFiltered_on (e : Enforcer) (hs : e.autoSave = true) (sec pt : String) (idx : Nat) (vals : List String) :
    (∃ a, (e.removeFiltered sec pt idx vals).1 = ({ e with adapter := a } : Enforcer)) ∨
    (∃ a, (e.removeFiltered sec pt idx vals).1 =
      (((({ e with adapter := a } : Enforcer).withSave false).removeFiltered sec pt idx vals).1).withSave true) := by
  simp only [Enforcer.removeFiltered_eq]; exact mgmt_on e hs _

theorem addPolicy_on2 (e : Enforcer) (hs : e.autoSave = true) (sec pt : String) (rule : Rule) :
    (∃ a res, e.addPolicy sec pt rule = (({ e with adapter := a } : Enforcer), res) ∧ stoppedRes res) ∨
    (∃ a, e.addPolicy sec pt rule =
      (((({ e with adapter := a } : Enforcer).withSave false).addPolicy sec pt rule).1.withSave true,
       ((({ e with adapter := a } : Enforcer).withSave false).addPolicy sec pt rule).2)) := by
  simp only [Enforcer.addPolicy_eq]; exact mgmt_on2 e hs _

theorem removePolicy_on2 (e : Enforcer) (hs : e.autoSave = true) (sec pt : String) (rule : Rule) :
    (∃ a res, e.removePolicy sec pt rule = (({ e with adapter := a } : Enforcer), res) ∧ stoppedRes res) ∨
    (∃ a, e.removePolicy sec pt rule =
      (((({ e with adapter := a } : Enforcer).withSave false).removePolicy sec pt rule).1.withSave true,
       ((({ e with adapter := a } : Enforcer).withSave false).removePolicy sec pt rule).2)) := by
  simp only [Enforcer.removePolicy_eq]; exact mgmt_on2 e hs _

theorem addPolicies_on2 (e : Enforcer) (hs : e.autoSave = true) (sec pt : String) (rules : List Rule) :
    (∃ a res, e.addPolicies sec pt rules = (({ e with adapter := a } : Enforcer), res) ∧ stoppedRes res) ∨
    (∃ a, e.addPolicies sec pt rules =
      (((({ e with adapter := a } : Enforcer).withSave false).addPolicies sec pt rules).1.withSave true,
       ((({ e with adapter := a } : Enforcer).withSave false).addPolicies sec pt rules).2)) := by
  simp only [Enforcer.addPolicies_eq]; exact mgmt_on2 e hs _

theorem removePolicies_on2 (e : Enforcer) (hs : e.autoSave = true) (sec pt : String) (rules : List Rule) :
    (∃ a res, e.removePolicies sec pt rules = (({ e with adapter := a } : Enforcer), res) ∧ stoppedRes res) ∨
    (∃ a, e.removePolicies sec pt rules =
      (((({ e with adapter := a } : Enforcer).withSave false).removePolicies sec pt rules).1.withSave true,
       ((({ e with adapter := a } : Enforcer).withSave false).removePolicies sec pt rules).2)) := by
  simp only [Enforcer.removePolicies_eq]; exact mgmt_on2 e hs _

theorem removeFiltered_on2 (e : Enforcer) (hs : e.autoSave = true) (sec pt : String) (idx : Nat) (vals : List String) :
    (∃ a res, e.removeFiltered sec pt idx vals = (({ e with adapter := a } : Enforcer), res) ∧ stoppedRes res) ∨
    (∃ a, e.removeFiltered sec pt idx vals =
      (((({ e with adapter := a } : Enforcer).withSave false).removeFiltered sec pt idx vals).1.withSave true,
       ((({ e with adapter := a } : Enforcer).withSave false).removeFiltered sec pt idx vals).2)) := by
  simp only [Enforcer.removeFiltered_eq]; exact mgmt_on2 e hs _

end Casbin
