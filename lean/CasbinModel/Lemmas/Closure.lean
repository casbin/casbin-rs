import CasbinModel.Rbac
import CasbinModel.Lemmas.Bfs
/-!
The work-list closure of `get_implicit_roles_for_user` computes reachability (C13).  The source pops with
`swap_remove(0)` (the last name moves to the front), the model from the front: the order of the work list does not
matter, the result is a set (`HashSet`), and `closure_eq_reach` and `CInv` read every list by membership only.
-/
namespace Casbin

/-- one or more `succ` steps: not reflexive (the start is among its own implicit roles only on a cycle) -/
inductive Reach1 (succ : String → List String) : String → String → Prop
  | one {a b} : b ∈ succ a → Reach1 succ a b
  | step {a b c} : Reach1 succ a b → c ∈ succ b → Reach1 succ a c

theorem Reach1.head {succ : String → List String} {a b c : String} (h1 : b ∈ succ a) (h2 : Reach1 succ b c) :
    Reach1 succ a c := by
  induction h2 with
  | one h => exact .step (.one h1) h
  | step _ h ih => exact .step ih h

/-- loop invariant of `closureGo`: `q` the work list, `res` the result so far -/
structure CInv (succ : String → List String) (name : String) (q res : List String) : Prop where
  sound : ∀ r ∈ res, Reach1 succ name r
  qsrc : ∀ x ∈ q, x = name ∨ x ∈ res
  /-- `x` is processed: the start or a result, and not pending -/
  closed : ∀ x, (x = name ∨ x ∈ res) → x ∉ q → ∀ y ∈ succ x, y ∈ res
  nodup : res.Nodup

theorem cinv_init (succ : String → List String) (name : String) : CInv succ name [name] [] where
  sound _ h := (List.not_mem_nil h).elim
  qsrc _ hx := Or.inl (List.mem_singleton.mp hx)
  -- only `name` qualifies, and it is pending
  closed _ hx hxq := (hxq (List.mem_singleton.mpr (hx.resolve_right List.not_mem_nil))).elim
  nodup := List.nodup_nil

theorem cinv_step {succ : String → List String} {name n : String} {q res : List String}
    (h : CInv succ name (n :: q) res) :
    CInv succ name (q ++ dedup ((succ n).filter (fun r => r ∉ res)))
      (res ++ dedup ((succ n).filter (fun r => r ∉ res))) := by
  have hfresh : ∀ y, y ∈ dedup ((succ n).filter (fun r => r ∉ res)) ↔ y ∈ succ n ∧ y ∉ res := fun y => by
    rw [mem_dedup, List.mem_filter, decide_eq_true_iff]
  have hreach_n : ∀ y ∈ succ n, Reach1 succ name y := fun y hy =>
    (h.qsrc n List.mem_cons_self).elim (fun hn => hn ▸ .one hy) (fun hn => .step (h.sound n hn) hy)
  refine ⟨fun r hr => ?_, fun x hx => ?_, fun x hx hxq y hy => ?_, ?_⟩
  · exact (List.mem_append.mp hr).elim (h.sound r) fun hr => hreach_n r ((hfresh r).mp hr).1
  · rcases List.mem_append.mp hx with hx | hx
    · exact (h.qsrc x (List.mem_cons_of_mem _ hx)).imp_right (List.mem_append_left _)
    · exact Or.inr (List.mem_append_right _ hx)
  · rw [List.mem_append, not_or] at hxq
    rw [List.mem_append, hfresh]
    by_cases hxn : x = n
    · subst hxn
      exact (Classical.em (y ∈ res)).imp_right fun hyr => ⟨hy, hyr⟩
    · -- `x` was processed before this round: not new, not `n`, not in the rest of the queue
      have hx' : x = name ∨ x ∈ res := hx.imp_right fun hx =>
        (List.mem_append.mp hx).resolve_right hxq.2
      exact Or.inl (h.closed x hx' (List.not_mem_cons_of_ne_of_not_mem hxn hxq.1) y hy)
  · rw [List.nodup_append]
    exact ⟨h.nodup, nodup_dedup _, fun a ha b hb hab => ((hfresh b).mp hb).2 (hab ▸ ha)⟩

/-- the fuel measure falls: a round takes one name off the queue and puts on it only names new to the result, which
stays within `nodes` -/
theorem closureGo_spec (succ : String → List String) (name : String) (nodes : List String)
    (hnodes : ∀ x y, y ∈ succ x → y ∈ nodes) :
    ∀ (fuel : Nat) (q res : List String), CInv succ name q res →
      q.length + (nodes.length - res.length) < fuel → CInv succ name [] (closureGo succ fuel q res) := by
  intro fuel
  induction fuel with
  | zero => intro q res _ hf; omega
  | succ fuel ih =>
    intro q res hinv hf
    cases q with
    | nil => exact hinv
    | cons n q =>
      have hinv' := cinv_step hinv
      refine ih _ _ hinv' ?_
      have hle := List.Nodup.length_le_of_subset hinv'.nodup fun r hr => by
        cases hinv'.sound r hr with
        | one h => exact hnodes _ _ h
        | step _ h => exact hnodes _ _ h
      simp only [List.length_append, List.length_cons] at hf hle ⊢
      omega

theorem closure_eq_reach (succ : String → List String) (name : String) (nodes : List String)
    (hnodes : ∀ x y, y ∈ succ x → y ∈ nodes) (r : String) :
    r ∈ closureGo succ (nodes.length + 2) [name] [] ↔ Reach1 succ name r := by
  have hinv := closureGo_spec succ name nodes hnodes (nodes.length + 2) [name] []
    (cinv_init succ name) (by simp; omega)
  refine ⟨hinv.sound r, fun hr => ?_⟩
  induction hr with
  | one h => exact hinv.closed name (Or.inl rfl) (by simp) _ h
  | step _ h ih => exact hinv.closed _ (Or.inr ih) (by simp) _ h

end Casbin
