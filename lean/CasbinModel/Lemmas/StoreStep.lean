import CasbinModel.Lemmas.Store
import CasbinModel.Lemmas.Mgmt
/-! What the model's part `m.step` of a management call does to a store, for all five at once: no definition is added,
dropped, or altered apart from its rule list (`find_isSome`, `map`); the rule list named becomes `m.fn` of itself when a change
is reported, and no list moves otherwise; `m.fn` keeps lists duplicate free, adds or removes exactly the rules the call hands
on, and does change the list unless the call named no rule (`fn_ne`). -/
namespace Casbin

theorem eq_or_of_ite {α : Type} {c : Prop} [Decidable c] {x a b : α} (h : x = if c then a else b) : x = b ∨ x = a := by
  by_cases hc : c
  · rw [if_pos hc] at h; exact .inr h
  · rw [if_neg hc] at h; exact .inl h

namespace Mgmt.Std
variable {m : Mgmt} (h : m.Std) (s : Store)
include h

theorem step_fst : (m.step s).1 = s ∨ (m.step s).1 = s.modify m.sec m.pt m.fn := by
  cases h with
  | add sec pt rule => exact .inr (s.addPolicy_fst sec pt rule)
  | remove sec pt rule => exact .inr (s.removePolicy_fst sec pt rule)
  | addMany sec pt rules => exact eq_or_of_ite (s.addPolicies_fst sec pt rules)
  | removeMany sec pt rules => exact eq_or_of_ite (s.removePolicies_fst sec pt rules)
  | removeFiltered sec pt idx vals => exact eq_or_of_ite (s.removeFiltered_fst sec pt idx vals)

theorem find_isSome (sec' pt' : String) : ((m.step s).1.find sec' pt').isSome = (s.find sec' pt').isSome := by
  rcases h.step_fst s with e | e <;> rw [e]
  exact s.find_isSome_modify m.sec m.pt sec' pt' m.fn

theorem map {β : Type} (f : PolDef → β) (hf : ∀ d pol, f { d with policy := pol } = f d) (sec' : String) :
    ((m.step s).1.sec sec').map f = (s.sec sec').map f := by
  rcases h.step_fst s with e | e <;> rw [e]
  exact Store.map_modify f hf s m.sec m.pt m.fn sec'

theorem getPolicy (sec' pt' : String) :
    (m.step s).1.getPolicy sec' pt' =
      if (m.step s).2.1 = true ∧ m.sec = sec' ∧ m.pt = pt' then m.fn (s.getPolicy sec' pt') else s.getPolicy sec' pt' := by
  cases h with
  | add sec pt rule => exact s.getPolicy_addPolicy sec pt rule sec' pt'
  | remove sec pt rule => exact s.getPolicy_removePolicy sec pt rule sec' pt'
  | addMany sec pt rules => exact s.getPolicy_addPolicies sec pt rules sec' pt'
  | removeMany sec pt rules => exact s.getPolicy_removePolicies sec pt rules sec' pt'
  | removeFiltered sec pt idx vals => exact s.getPolicy_removeFiltered sec pt idx vals sec' pt'

omit s in
theorem fn_nodup {l : List Rule} (hl : l.Nodup) : (m.fn l).Nodup := by
  cases h with
  | add _ _ rule => exact OrdSet.add_nodup hl rule
  | remove _ _ rule => exact OrdSet.remove_nodup hl rule
  | addMany _ _ rules => exact OrdSet.addAll_nodup hl rules
  | removeMany _ _ rules => exact OrdSet.removeAll_nodup hl rules
  | removeFiltered _ _ idx vals => exact hl.filter _

theorem wf (hw : s.WF) : (m.step s).1.WF := by
  intro sec' pt'
  rw [h.getPolicy]
  split
  · exact h.fn_nodup (hw sec' pt')
  · exact hw sec' pt'

/-- as sets `fn l = l ∪ rs` after an insertion, `l = fn l ∪ rs` after a removal: the shape `incr_synced` takes -/
theorem fn_mem (hc : (m.step s).2.1 = true) (r : Rule) :
    if m.ins then r ∈ m.fn (s.getPolicy m.sec m.pt) ↔ r ∈ s.getPolicy m.sec m.pt ∨ r ∈ (m.step s).2.2
    else r ∈ s.getPolicy m.sec m.pt ↔ r ∈ m.fn (s.getPolicy m.sec m.pt) ∨ r ∈ (m.step s).2.2 := by
  cases h with
  | add sec pt rule => exact OrdSet.addAll_mem _ [rule] r
  | addMany sec pt rules => exact OrdSet.addAll_mem _ rules r
  | remove sec pt rule =>
    refine OrdSet.mem_removeAll_or (vs := [rule]) (fun v hv => ?_) r
    rw [List.mem_singleton.1 hv]; exact (s.removePolicy_snd sec pt rule).1 hc
  | removeMany sec pt rules => exact OrdSet.mem_removeAll_or ((s.removePolicies_snd sec pt rules).1 hc).2 r
  | removeFiltered sec pt idx vals =>
    show r ∈ s.getPolicy sec pt ↔ r ∈ (s.getPolicy sec pt).filter (fun r => !filterMatch idx vals r) ∨
      r ∈ (s.removeFiltered sec pt idx vals).2.2
    rw [Store.removeFiltered_snd, if_neg ((s.removeFiltered_flag sec pt idx vals).1 hc).1, List.mem_filter, List.mem_filter]
    cases filterMatch idx vals r <;> simp

/-- `hne`: an accepted *empty* batch reports a change and changes nothing -/
theorem fn_ne (hc : (m.step s).2.1 = true) (hne : (m.step s).2.2 ≠ []) :
    m.fn (s.getPolicy m.sec m.pt) ≠ s.getPolicy m.sec m.pt := by
  cases h with
  | add sec pt rule =>
    exact OrdSet.addAll_ne (vs := [rule]) hne fun v hv => List.mem_singleton.1 hv ▸ ((s.addPolicy_snd sec pt rule).1 hc).2
  | addMany sec pt rules => exact OrdSet.addAll_ne hne ((s.addPolicies_snd sec pt rules).1 hc).2
  | remove sec pt rule =>
    exact OrdSet.removeAll_ne (vs := [rule]) hne fun v hv => List.mem_singleton.1 hv ▸ (s.removePolicy_snd sec pt rule).1 hc
  | removeMany sec pt rules => exact OrdSet.removeAll_ne hne ((s.removePolicies_snd sec pt rules).1 hc).2
  | removeFiltered sec pt idx vals =>
    obtain ⟨_, r, hr, hm⟩ := (s.removeFiltered_flag sec pt idx vals).1 hc
    exact filter_not_ne hr hm

theorem changed (hc : (m.step s).2.1 = true) (hne : (m.step s).2.2 ≠ []) : (m.step s).1 ≠ s := by
  intro he
  have hg := h.getPolicy s m.sec m.pt
  rw [he, if_pos ⟨hc, rfl, rfl⟩] at hg
  exact h.fn_ne s hc hne hg.symm

end Mgmt.Std

end Casbin
