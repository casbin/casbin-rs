import CasbinModel.PatRoles
import CasbinModel.Lemmas.RoleMgr
/-!
The manager as written (`PatRoles.lean`) with no matching function is the manager of `RoleGraph.lean`: every operation
and query commutes with the embedding `RoleMgr.toP` (every edge a `Link`), over whole histories (`run_toP`), so the
theorems of C03 are about the general code path.  The embedding maps the edge list through `embE`: the graph-level
facts are `List` lemmas about `map`.  `PRm.apply`, `PRm.run` (histories of the manager as written, for C03's `pat_*`)
are defined here: the driver does not run them.
-/
namespace Casbin

variable {α : Type} [DecidableEq α]

theorem find?_eq_ite_mem {β : Type} [DecidableEq β] (l : List β) (x : β) (p : β → Bool)
    (hp : ∀ y, p y = true ↔ y = x) : l.find? p = if x ∈ l then some x else none := by
  induction l with
  | nil => rfl
  | cons y ys ih =>
    by_cases h : y = x
    · subst h; simp [(hp y).mpr rfl]
    · simp [mt (hp y).mp h, ih, Ne.symm h]

def embE (e : α × α) : PEdge α := (e.1, e.2, false)
def Graph.toP (g : Graph α) : PGraph α := ⟨g.nodes, g.edges.map embE⟩
def RoleMgr.toP (rm : RoleMgr α) : PRm α := ⟨rm.doms.map (fun p => (p.1, p.2.toP)), rm.maxLevel⟩

@[simp] theorem toP_nodes (g : Graph α) : g.toP.nodes = g.nodes := rfl
@[simp] theorem toP_maxLevel (rm : RoleMgr α) : rm.toP.maxLevel = rm.maxLevel := rfl

theorem toP_graph? (rm : RoleMgr α) (d : α) : rm.toP.graph? d = (rm.graph? d).map Graph.toP := by
  simp [PRm.graph?, RoleMgr.graph?, RoleMgr.toP, List.find?_map, Function.comp_def]

theorem toP_graph (rm : RoleMgr α) (d : α) : rm.toP.graph d = (rm.graph d).toP := by
  unfold PRm.graph RoleMgr.graph
  rw [toP_graph?]
  cases rm.graph? d <;> rfl

theorem psetDom_toP (doms : List (α × Graph α)) (d : α) (g : Graph α) :
    psetDom (doms.map (fun p => (p.1, p.2.toP))) d g.toP = (setDom doms d g).map (fun p => (p.1, p.2.toP)) := by
  induction doms with
  | nil => rfl
  | cons p ps ih => simp only [List.map_cons, psetDom, setDom]; split <;> simp [ih]

theorem setDom_toP (rm : RoleMgr α) (d : α) (g : Graph α) :
    ({ rm.toP with doms := psetDom rm.toP.doms d g.toP } : PRm α) =
      ({ rm with doms := setDom rm.doms d g } : RoleMgr α).toP := by
  simp only [RoleMgr.toP, psetDom_toP]

theorem getOrCreate_toP (g : Graph α) (name : α) :
    PGraph.getOrCreate none g.toP name = (g.getOrCreate name).toP := by
  unfold PGraph.getOrCreate Graph.getOrCreate
  by_cases h : name ∈ g.nodes <;> simp [h, Graph.toP]

theorem findEdge_toP (g : Graph α) (a b : α) :
    g.toP.findEdge a b = if (a, b) ∈ g.edges then some false else none := by
  simp only [PGraph.findEdge, Graph.toP, List.find?_map, Option.map_map]
  rw [find?_eq_ite_mem g.edges (a, b) _ (fun y => by
    simp only [Function.comp, embE, Prod.ext_iff]; exact decide_eq_true_iff)]
  split <;> rfl

theorem eraseFirstEdge_toP (a b : α) (es : List (α × α)) :
    eraseFirstEdge a b (es.map embE) = (es.erase (a, b)).map embE := by
  induction es with
  | nil => rfl
  | cons e es ih =>
    by_cases h : e = (a, b)
    · subst h; simp [eraseFirstEdge, embE]
    · have h' : ¬ (e.1 = a ∧ e.2 = b) := fun hh => h (Prod.ext hh.1 hh.2)
      simp [eraseFirstEdge, embE, h, h', ih]

theorem inAll_toP (g : Graph α) (u : α) : g.toP.inAll u = g.preds u := by
  unfold PGraph.inAll Graph.preds Graph.toP
  rw [List.filter_map, List.map_map]
  rfl

theorem succs_toP (g : Graph α) : g.toP.succs false = g.succs := by
  funext u
  unfold PGraph.succs PGraph.outLinks Graph.succs Graph.toP
  rw [List.filter_map, List.map_map]
  -- the variant test is vacuous on an embedded edge
  exact congrArg (List.map Prod.snd) (List.filter_congr fun e _ => decide_eq_decide.mpr (and_iff_left rfl))

theorem Bfs.nextWith_succs (g : Graph α) (maxD : Nat) (b : Bfs α) :
    Bfs.nextWith g.succs maxD b = b.next g maxD := rfl

theorem searchWith_succs (g : Graph α) (maxD : Nat) (t : α) (fuel : Nat) (b : Bfs α) :
    searchWith g.succs (fun r => decide (r = t)) maxD fuel b = search g maxD t fuel b := by
  induction fuel generalizing b with
  | zero => rfl
  | succ n ih =>
    simp only [searchWith, search, Bfs.nextWith_succs]
    cases b.next g maxD with
    | none => rfl
    | some p => simp [ih]

theorem graphHasLink_toP (g : Graph α) (maxD : Nat) (a b : α) :
    g.toP.hasLink none maxD a b =
      if a ∈ g.nodes then search g maxD b (g.nodes.length + 1) (Bfs.init a) else false := by
  by_cases h : a ∈ g.nodes <;>
    simp [PGraph.hasLink, PGraph.startNode, h, succs_toP, searchWith_succs, RoleFn.app]

theorem firstNode_toP (g : Graph α) (a : α) :
    g.toP.firstNode none a = if a ∈ g.nodes then some a else none := by
  simp only [PGraph.firstNode, RoleFn.app, Bool.or_false]
  exact find?_eq_ite_mem g.nodes a _ (fun y => by simp)

theorem matchedDomains_toP (rm : RoleMgr α) (d : α) :
    rm.toP.matchedDomains none d = if (rm.graph? d).isSome then [d] else [] := by
  simp only [PRm.matchedDomains, toP_graph?, Option.isSome_map]

theorem mem_matchedDomains (rm : RoleMgr α) (df : RoleFn α) (d k : α) :
    k ∈ rm.toP.matchedDomains df d ↔
      (rm.graph? k).isSome = true ∧ (match df with | some f => f d k = true | none => k = d) := by
  cases df with
  | none =>
    rw [matchedDomains_toP]
    by_cases hs : (rm.graph? d).isSome = true
    · rw [if_pos hs, List.mem_singleton]; exact ⟨fun h => ⟨h ▸ hs, h⟩, And.right⟩
    · rw [if_neg hs]; exact ⟨nofun, fun h => (hs (h.2 ▸ h.1)).elim⟩
  | some f =>
    simp only [PRm.matchedDomains, RoleMgr.toP, RoleMgr.graph?, List.mem_filter, List.map_map, Option.isSome_map,
      List.find?_isSome, List.mem_map, Function.comp_def, decide_eq_true_eq]

/-- `add_link` forgets no domain -/
theorem matchedDomains_addLink (rm : RoleMgr α) (df : RoleFn α) (x y d' d k : α)
    (h : k ∈ rm.toP.matchedDomains df d) : k ∈ (rm.addLink x y d').toP.matchedDomains df d := by
  rw [mem_matchedDomains] at h ⊢
  refine ⟨?_, h.2⟩
  simp only [RoleMgr.addLink, apply_ite (fun r => (RoleMgr.graph? r k).isSome), graph?_setDom,
    apply_ite Option.isSome, Option.isSome_some, h.1, ite_self]

/-- `h`: a domain not stored reads as the empty graph, on which every query gives its neutral answer -/
theorem any_matchedDomains (rm : RoleMgr α) (d : α) (f : α → Bool)
    (h : rm.graph d = Graph.empty → f d = false) : (rm.toP.matchedDomains none d).any f = f d := by
  rw [matchedDomains_toP]
  rcases rm.graph?_cases d with h1 | h1
  · simp [h1.1, h h1.2]
  · simp [h1]

theorem flatMap_matchedDomains {β : Type} (rm : RoleMgr α) (d : α) (f : α → List β)
    (h : rm.graph d = Graph.empty → f d = []) : (rm.toP.matchedDomains none d).flatMap f = f d := by
  rw [matchedDomains_toP]
  rcases rm.graph?_cases d with h1 | h1
  · simp [h1.1, h h1.2]
  · simp [h1]

theorem addLink_toP (rm : RoleMgr α) (a b d : α) :
    rm.toP.addLink none a b d = (rm.addLink a b d).toP := by
  unfold PRm.addLink RoleMgr.addLink
  by_cases hab : a = b
  · rw [if_pos hab, if_pos hab]
  · rw [if_neg hab, if_neg hab]
    simp only [toP_graph, getOrCreate_toP, findEdge_toP]
    generalize ((rm.graph d).getOrCreate a).getOrCreate b = g
    by_cases he : (a, b) ∈ g.edges
    · simp only [he, if_true, Bool.false_eq_true, if_false]; exact setDom_toP rm d g
    · simp only [he, if_false, if_true]; exact setDom_toP rm d { g with edges := (a, b) :: g.edges }

theorem domainHasRole_toP (rm : RoleMgr α) (name d : α) :
    rm.toP.domainHasRole none none name d = rm.domainHasRole name d := by
  rw [PRm.domainHasRole, any_matchedDomains] <;> simp +contextual [toP_graph, domainHasRole_eq, Graph.empty]

theorem deleteLink_toP (rm : RoleMgr α) (a b d : α) :
    rm.toP.deleteLink none none a b d = (rm.deleteLink a b d).map RoleMgr.toP := by
  simp only [PRm.deleteLink, domainHasRole_toP, RoleMgr.deleteLink]
  by_cases hab : a = b
  · rw [if_pos hab, if_pos hab]; rfl
  · rw [if_neg hab, if_neg hab]
    by_cases h : (!rm.domainHasRole a d || !rm.domainHasRole b d) = true
    · rw [if_pos h, if_pos h]; rfl
    · rw [if_neg h, if_neg h]
      -- both names are nodes: `get_or_create_role` finds them
      simp only [domainHasRole_eq, Bool.or_eq_true, Bool.not_eq_true', decide_eq_false_iff_not, not_or,
        Decidable.not_not] at h
      simp only [toP_graph, getOrCreate_toP, Graph.getOrCreate, h.1, h.2, if_true, Option.map_some]
      rw [← setDom_toP]
      simp only [Graph.toP, eraseFirstEdge_toP]

/-- with a domain-matching function only (`df`; no role-matching function): `has_link` is the disjunction of the plain
manager's answers over the matched stored domains -/
theorem hasLink_toP_df (rm : RoleMgr α) (df : RoleFn α) (a b d : α) (hab : a ≠ b) :
    rm.toP.hasLink none df a b d = (rm.toP.matchedDomains df d).any (fun k => rm.hasLink a b k) := by
  simp only [PRm.hasLink, hab, if_false, toP_maxLevel, toP_graph, graphHasLink_toP, hasLink_eq]

theorem hasLink_toP (rm : RoleMgr α) (a b d : α) :
    rm.toP.hasLink none none a b d = rm.hasLink a b d := by
  by_cases hab : a = b
  · simp [PRm.hasLink, RoleMgr.hasLink, hab]
  · rw [hasLink_toP_df rm none a b d hab, any_matchedDomains]
    intro h; simp [hasLink_eq, h, hab, Graph.empty]

theorem getRoles_toP (rm : RoleMgr α) (a d : α) :
    rm.toP.getRoles none none a d = rm.getRoles a d := by
  rw [PRm.getRoles, flatMap_matchedDomains]
  · by_cases h : a ∈ (rm.graph d).nodes <;> simp [toP_graph, firstNode_toP, getRoles_def, succs_toP, h, dedup]
  · intro h; simp [toP_graph, firstNode_toP, h, Graph.empty]

theorem getUsers_toP (rm : RoleMgr α) (a d : α) :
    rm.toP.getUsers none none a d = rm.getUsers a d := by
  rw [PRm.getUsers, flatMap_matchedDomains]
  · by_cases h : a ∈ (rm.graph d).nodes <;> simp [toP_graph, firstNode_toP, getUsers_def, inAll_toP, h, dedup]
  · intro h; simp [toP_graph, firstNode_toP, h, Graph.empty]

def PRm.apply (rf df : RoleFn α) (rm : PRm α) : RmOp α → PRm α
  | .add a b d => rm.addLink rf a b d
  | .del a b d => (rm.deleteLink rf df a b d).getD rm
  | .clear => rm.clear

/-- a history of the manager as written, under fixed functions -/
def PRm.run (rf df : RoleFn α) (rm : PRm α) (h : List (RmOp α)) : PRm α := h.foldl (PRm.apply rf df) rm

theorem apply_toP (rm : RoleMgr α) (op : RmOp α) : rm.toP.apply none none op = (rm.apply op).toP := by
  cases op with
  | add a b d => exact addLink_toP rm a b d
  | del a b d =>
    simp only [PRm.apply, RoleMgr.apply, deleteLink_toP]
    cases rm.deleteLink a b d <;> rfl
  | clear => rfl

theorem run_toP (rm : RoleMgr α) (h : List (RmOp α)) : rm.toP.run none none h = (rm.run h).toP := by
  induction h generalizing rm with
  | nil => rfl
  | cons op ops ih =>
    simp only [PRm.run, RoleMgr.run, List.foldl_cons, apply_toP]
    exact ih (rm.apply op)

omit [DecidableEq α] in
theorem new_toP (n : Nat) : (RoleMgr.new n : RoleMgr α).toP = PRm.new n := rfl

end Casbin
