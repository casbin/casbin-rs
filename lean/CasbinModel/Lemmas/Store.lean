import CasbinModel.Store
/-! Lemmas about the ordered-set operations and the store.

A store is observed through `find` and `getPolicy`.  `X_fst`: the new store is `Store.modify sec pt g` for the list
function `g` of the rule operation `X`: always for `addPolicy` / `removePolicy`; when the flag is true, else the old store,
for the batch calls and the filtered removal.  `X_snd`: when the flag is true (`removeFiltered_snd` is the whole answer,
`removeFiltered_flag` its flag; in the `OrdSet` section `_snd` is the Boolean equation, `_flag` the iff).  `getPolicy_X`:
what the call does to the observable, read off `getPolicy_modify`.  Last, `clear` and the invariant `Store.WF`. -/
namespace Casbin

section OrdSet
variable {α : Type} [DecidableEq α]

theorem OrdSet.add_fst (s : List α) (v : α) : (OrdSet.add s v).1 = if v ∈ s then s else s ++ [v] := by
  unfold OrdSet.add; split <;> rfl

theorem OrdSet.add_present {s : List α} {v : α} (h : v ∈ s) : (OrdSet.add s v).1 = s := by
  rw [OrdSet.add_fst, if_pos h]

theorem OrdSet.add_snd (s : List α) (v : α) : (OrdSet.add s v).2 = decide (v ∉ s) := by
  unfold OrdSet.add; split <;> simp [*]

theorem OrdSet.add_flag (s : List α) (v : α) : (OrdSet.add s v).2 = true ↔ v ∉ s := by
  rw [OrdSet.add_snd, decide_eq_true_eq]

theorem OrdSet.add_nodup {s : List α} (h : s.Nodup) (v : α) : (OrdSet.add s v).1.Nodup := by
  rw [OrdSet.add_fst]
  split
  · exact h
  · rename_i hv
    exact List.nodup_append.2 ⟨h, by simp, fun a ha b hb => by
      rw [List.mem_singleton.1 hb]; exact fun e => hv (e ▸ ha)⟩

theorem OrdSet.add_mem (s : List α) (v x : α) : x ∈ (OrdSet.add s v).1 ↔ x ∈ s ∨ x = v := by
  rw [OrdSet.add_fst]
  split
  · rename_i hv; exact ⟨Or.inl, fun h => h.elim id (fun e => e ▸ hv)⟩
  · simp

theorem OrdSet.addAll_eq_foldl (s vs : List α) : OrdSet.addAll s vs = vs.foldl (fun s v => (OrdSet.add s v).1) s := by
  induction vs generalizing s with
  | nil => rfl
  | cons v vs ih => exact ih _

theorem OrdSet.addAll_nodup {s : List α} (h : s.Nodup) (vs : List α) : (OrdSet.addAll s vs).Nodup := by
  induction vs generalizing s with
  | nil => exact h
  | cons v vs ih => exact ih (OrdSet.add_nodup h v)

theorem OrdSet.addAll_mem (s vs : List α) (x : α) : x ∈ OrdSet.addAll s vs ↔ x ∈ s ∨ x ∈ vs := by
  induction vs generalizing s with
  | nil => simp [OrdSet.addAll]
  | cons v vs ih => simp only [OrdSet.addAll, ih, OrdSet.add_mem, List.mem_cons, or_assoc]

theorem OrdSet.addAll_prefix (s vs : List α) : s <+: OrdSet.addAll s vs := by
  induction vs generalizing s with
  | nil => exact List.prefix_refl _
  | cons v vs ih =>
    refine List.IsPrefix.trans ?_ (ih _)
    rw [OrdSet.add_fst]; split
    · exact List.prefix_refl _
    · exact List.prefix_append _ _

theorem OrdSet.addAll_ne {s vs : List α} (hne : vs ≠ []) (h : ∀ v ∈ vs, v ∉ s) : OrdSet.addAll s vs ≠ s := by
  obtain ⟨v, vs, rfl⟩ := List.exists_cons_of_ne_nil hne
  intro he
  exact h v List.mem_cons_self (he ▸ (OrdSet.addAll_mem s (v :: vs) v).2 (Or.inr List.mem_cons_self))

theorem OrdSet.remove_fst (s : List α) (v : α) : (OrdSet.remove s v).1 = s.erase v := by
  unfold OrdSet.remove; split
  · rfl
  · rename_i h; exact (List.erase_of_not_mem h).symm

theorem OrdSet.remove_snd (s : List α) (v : α) : (OrdSet.remove s v).2 = decide (v ∈ s) := by
  unfold OrdSet.remove; split <;> simp [*]

theorem OrdSet.remove_flag (s : List α) (v : α) : (OrdSet.remove s v).2 = true ↔ v ∈ s := by
  rw [OrdSet.remove_snd, decide_eq_true_eq]

theorem OrdSet.remove_absent {s : List α} {v : α} (h : v ∉ s) : (OrdSet.remove s v).1 = s := by
  rw [OrdSet.remove_fst, List.erase_of_not_mem h]

theorem OrdSet.remove_nodup {s : List α} (h : s.Nodup) (v : α) : (OrdSet.remove s v).1.Nodup := by
  rw [OrdSet.remove_fst]; exact h.erase v

theorem OrdSet.remove_sublist (s : List α) (v : α) : (OrdSet.remove s v).1.Sublist s := by
  rw [OrdSet.remove_fst]; exact List.erase_sublist

theorem OrdSet.remove_mem {s : List α} (h : s.Nodup) (v x : α) :
    x ∈ (OrdSet.remove s v).1 ↔ x ∈ s ∧ x ≠ v := by
  rw [OrdSet.remove_fst, List.Nodup.mem_erase_iff h]; exact And.comm

theorem OrdSet.removeAll_eq_foldl (s vs : List α) :
    OrdSet.removeAll s vs = vs.foldl (fun s v => (OrdSet.remove s v).1) s := by
  induction vs generalizing s with
  | nil => rfl
  | cons v vs ih => exact ih _

theorem OrdSet.removeAll_sublist (s vs : List α) : (OrdSet.removeAll s vs).Sublist s := by
  induction vs generalizing s with
  | nil => exact List.Sublist.refl _
  | cons v vs ih => exact (ih _).trans (OrdSet.remove_sublist s v)

theorem OrdSet.removeAll_nodup {s : List α} (h : s.Nodup) (vs : List α) : (OrdSet.removeAll s vs).Nodup :=
  h.sublist (OrdSet.removeAll_sublist s vs)

theorem OrdSet.removeAll_eq_filter {s : List α} (h : s.Nodup) (vs : List α) :
    OrdSet.removeAll s vs = s.filter (fun x => decide (x ∉ vs)) := by
  induction vs generalizing s with
  | nil => exact (List.filter_eq_self.2 (by simp)).symm
  | cons v vs ih =>
    simp only [OrdSet.removeAll]
    rw [ih (OrdSet.remove_nodup h v), OrdSet.remove_fst, h.erase_eq_filter, List.filter_filter]
    apply List.filter_congr
    intro x _
    by_cases hx : x = v <;> simp [hx]

theorem OrdSet.removeAll_mem {s : List α} (h : s.Nodup) (vs : List α) (x : α) :
    x ∈ OrdSet.removeAll s vs ↔ x ∈ s ∧ x ∉ vs := by
  simp [OrdSet.removeAll_eq_filter h]

theorem OrdSet.removeAll_filter {s : List α} (h : s.Nodup) (p : α → Bool) :
    OrdSet.removeAll s (s.filter p) = s.filter (fun r => !p r) := by
  rw [OrdSet.removeAll_eq_filter h]
  apply List.filter_congr
  intro x hx
  by_cases hp : p x = true <;> simp [hp, List.mem_filter, hx]

/-- needs no `Nodup`, unlike `removeAll_mem` -/
theorem OrdSet.mem_removeAll_of_not_mem {vs : List α} {x : α} (hx : x ∉ vs) (s : List α) :
    x ∈ OrdSet.removeAll s vs ↔ x ∈ s := by
  induction vs generalizing s with
  | nil => exact Iff.rfl
  | cons v vs ih =>
    rw [List.mem_cons, not_or] at hx
    exact (ih hx.2 _).trans (by rw [OrdSet.remove_fst]; exact List.mem_erase_of_ne hx.1)

theorem OrdSet.mem_removeAll_or {s vs : List α} (h : ∀ v ∈ vs, v ∈ s) (x : α) :
    x ∈ s ↔ x ∈ OrdSet.removeAll s vs ∨ x ∈ vs := by
  by_cases hx : x ∈ vs
  · exact ⟨fun _ => Or.inr hx, fun _ => h x hx⟩
  · rw [OrdSet.mem_removeAll_of_not_mem hx]; exact ⟨Or.inl, fun h' => h'.resolve_right hx⟩

theorem OrdSet.removeAll_ne {s vs : List α} (hne : vs ≠ []) (h : ∀ v ∈ vs, v ∈ s) : OrdSet.removeAll s vs ≠ s := by
  obtain ⟨v, vs, rfl⟩ := List.exists_cons_of_ne_nil hne
  have hv := h v List.mem_cons_self
  intro he
  -- erasing `v ∈ s` shortens the list, and the rest of the batch cannot lengthen it
  have hle := (OrdSet.removeAll_sublist (OrdSet.remove s v).1 vs).length_le
  rw [show OrdSet.removeAll (OrdSet.remove s v).1 vs = s from he, OrdSet.remove_fst, List.length_erase_of_mem hv] at hle
  have := List.length_pos_of_mem hv
  omega

end OrdSet

theorem filter_not_ne {α : Type} {l : List α} {p : α → Bool} {x : α} (hx : x ∈ l) (hp : p x = true) :
    l.filter (fun r => !p r) ≠ l := by
  intro he
  have := List.filter_eq_self.1 he x hx
  rw [hp] at this
  exact Bool.false_ne_true this

/-- for rules elaboration picks the `BEq` instance of lists, the ordered-set operations that of `DecidableEq` -/
theorem erase_inst_irrel {α : Type} [DecidableEq α] [b : BEq α] [LawfulBEq α] (l : List α) (a : α) :
    @List.erase _ instBEqOfDecidableEq l a = @List.erase _ b l a := by
  rw [@List.erase_eq_eraseP _ instBEqOfDecidableEq inferInstance, List.erase_eq_eraseP]
  exact congrArg (List.eraseP · l) (funext fun x => Bool.eq_iff_iff.2 (decide_eq_true_iff.trans beq_iff_eq.symm))

/-! `Store.update` with any key-preserving `f`; from `Store.modify` on only that instance is used -/

theorem find?_map_key (ds : List PolDef) (F : PolDef → PolDef) (hF : ∀ d, (F d).key = d.key) (k : String) :
    (ds.map F).find? (·.key = k) = (ds.find? (·.key = k)).map F := by
  rw [List.find?_map]
  congr 2
  funext d
  simp [hF]

theorem find?_updDef (ds : List PolDef) (pt pt' : String) (f : PolDef → PolDef)
    (hf : ∀ d, (f d).key = d.key) :
    (updDef ds pt f).find? (·.key = pt') =
      if pt = pt' then (ds.find? (·.key = pt')).map f else ds.find? (·.key = pt') := by
  unfold updDef
  rw [find?_map_key _ _ (fun d => by split <;> simp [hf])]
  cases h : ds.find? (·.key = pt') with
  | none => simp
  | some d =>
    have hd : d.key = pt' := by simpa using List.find?_some h
    by_cases hp : pt = pt'
    · simp [hp, hd]
    · simp only [hp, hd, if_false, Option.map_some]
      rw [if_neg (fun e => hp e.symm)]

theorem map_updDef {β : Type} (h : PolDef → β) (ds : List PolDef) (pt : String) (f : PolDef → PolDef)
    (hf : ∀ d, h (f d) = h d) : (updDef ds pt f).map h = ds.map h := by
  unfold updDef
  rw [List.map_map]
  apply List.map_congr_left
  intro d _
  simp only [Function.comp]
  split <;> simp [hf]

theorem updDef_self (ds : List PolDef) (pt : String) (f : PolDef → PolDef)
    (h : ∀ d ∈ ds, d.key = pt → f d = d) : updDef ds pt f = ds := by
  unfold updDef
  conv => rhs; rw [← List.map_id ds]
  apply List.map_congr_left
  intro d hd
  split
  · exact h d hd ‹_›
  · rfl

theorem Store.setSec_self (s : Store) (sec : String) : s.setSec sec (s.sec sec) = s := by
  unfold Store.setSec Store.sec
  by_cases h1 : sec = "p"
  · simp only [if_pos h1]
  · by_cases h2 : sec = "g"
    · simp only [if_neg h1, if_pos h2]
    · simp only [if_neg h1, if_neg h2]

theorem Store.sec_update (s : Store) (sec pt sec' : String) (f : PolDef → PolDef) :
    (s.update sec pt f).sec sec' = if sec = sec' then updDef (s.sec sec') pt f else s.sec sec' := by
  unfold Store.update Store.setSec
  by_cases h1 : sec = "p"
  · subst h1
    rw [if_pos rfl]
    by_cases h : "p" = sec'
    · subst h; rw [if_pos rfl]; rfl
    · rw [if_neg h]; unfold Store.sec; simp only [if_neg (fun e : sec' = "p" => h e.symm)]
  · rw [if_neg h1]
    by_cases h2 : sec = "g"
    · subst h2
      rw [if_pos rfl]
      by_cases h : "g" = sec'
      · subst h; rw [if_pos rfl]; rfl
      · rw [if_neg h]; unfold Store.sec
        simp only [if_neg (fun e : sec' = "g" => h e.symm)]
    · rw [if_neg h2]
      split
      · rename_i h; subst h; unfold Store.sec; rw [if_neg h1, if_neg h2]; rfl
      · rfl

theorem Store.find_update (s : Store) (sec pt sec' pt' : String) (f : PolDef → PolDef)
    (hf : ∀ d, (f d).key = d.key) :
    (s.update sec pt f).find sec' pt' =
      if sec = sec' ∧ pt = pt' then (s.find sec pt).map f else s.find sec' pt' := by
  unfold Store.find
  rw [Store.sec_update]
  by_cases hs : sec = sec'
  · subst hs
    rw [if_pos rfl, find?_updDef _ _ _ _ hf]
    by_cases hp : pt = pt'
    · subst hp; simp
    · simp [hp]
  · simp [hs]

theorem Store.find_mem {s : Store} {sec pt : String} {d : PolDef} (h : s.find sec pt = some d) :
    d ∈ s.sec sec ∧ d.key = pt :=
  ⟨List.mem_of_find?_eq_some h, by simpa using List.find?_some h⟩

theorem Store.update_of_find_none {s : Store} {sec pt : String} (h : s.find sec pt = none) (f : PolDef → PolDef) :
    s.update sec pt f = s := by
  unfold Store.update
  rw [updDef_self, Store.setSec_self]
  intro d hd hk
  have := List.find?_eq_none.1 h d hd
  simp [hk] at this

theorem Store.getPolicy_of_find {s : Store} {sec pt : String} {d : PolDef} (h : s.find sec pt = some d) :
    s.getPolicy sec pt = d.policy := by
  unfold Store.getPolicy; rw [h]

theorem Store.getPolicy_of_find_none {s : Store} {sec pt : String} (h : s.find sec pt = none) :
    s.getPolicy sec pt = [] := by
  unfold Store.getPolicy; rw [h]

theorem Store.find_isSome_of_mem {s : Store} {sec pt : String} {r : Rule} (h : r ∈ s.getPolicy sec pt) :
    (s.find sec pt).isSome = true := by
  cases hf : s.find sec pt with
  | some d => rfl
  | none => rw [Store.getPolicy_of_find_none hf] at h; cases h

/-- `g` on the rule list of `(sec, pt)`; the store itself when there is no such policy type (`modify_of_find_none`).
Every rule operation is this or nothing (`X_fst`). -/
def Store.modify (s : Store) (sec pt : String) (g : List Rule → List Rule) : Store :=
  s.update sec pt (fun d => { d with policy := g d.policy })

theorem Store.find_modify (s : Store) (sec pt sec' pt' : String) (g : List Rule → List Rule) :
    (s.modify sec pt g).find sec' pt' =
      if sec = sec' ∧ pt = pt' then (s.find sec' pt').map (fun d => { d with policy := g d.policy })
      else s.find sec' pt' := by
  unfold Store.modify
  rw [Store.find_update s sec pt sec' pt' (fun d => { d with policy := g d.policy }) (fun _ => rfl)]
  split
  · rename_i h; rw [h.1, h.2]
  · rfl

theorem Store.find_isSome_modify (s : Store) (sec pt sec' pt' : String) (g : List Rule → List Rule) :
    ((s.modify sec pt g).find sec' pt').isSome = (s.find sec' pt').isSome := by
  rw [Store.find_modify]; split
  · exact Option.isSome_map
  · rfl

/-- the `isSome` conjunct: a missing policy type reads as `[]`, and `g []` need not be `[]` -/
theorem Store.getPolicy_modify (s : Store) (sec pt sec' pt' : String) (g : List Rule → List Rule) :
    (s.modify sec pt g).getPolicy sec' pt' =
      if (sec = sec' ∧ pt = pt') ∧ (s.find sec' pt').isSome = true then g (s.getPolicy sec' pt')
      else s.getPolicy sec' pt' := by
  unfold Store.getPolicy
  rw [Store.find_modify]
  cases s.find sec' pt' <;> by_cases h : sec = sec' ∧ pt = pt' <;> simp [h]

theorem Store.modify_of_find_none {s : Store} {sec pt : String} (h : s.find sec pt = none) (g : List Rule → List Rule) :
    s.modify sec pt g = s :=
  Store.update_of_find_none h _

theorem Store.map_modify {β : Type} (h : PolDef → β) (hh : ∀ d pol, h { d with policy := pol } = h d)
    (s : Store) (sec pt : String) (g : List Rule → List Rule) (sec' : String) :
    ((s.modify sec pt g).sec sec').map h = (s.sec sec').map h := by
  unfold Store.modify
  rw [Store.sec_update]
  split
  · exact map_updDef h _ _ _ (fun d => hh d _)
  · rfl

/-- the shape of the all-or-nothing operations: refused (old state, `false`) or done -/
private theorem allOrNothing_fst {σ : Type} (c : Prop) [Decidable c] (s t : σ) :
    (if c then (s, false) else (t, true)).1 = if (if c then (s, false) else (t, true)).2 = true then t else s := by
  by_cases h : c
  · rw [if_pos h]; rfl
  · rw [if_neg h]; rfl

private theorem allOrNothing_snd {σ : Type} (c : Prop) [Decidable c] (s t : σ) :
    (if c then (s, false) else (t, true)).2 = true ↔ ¬ c := by
  by_cases h : c
  · rw [if_pos h]; simp [h]
  · rw [if_neg h]; simp [h]

theorem Store.addPolicy_fst (s : Store) (sec pt : String) (r : Rule) :
    (s.addPolicy sec pt r).1 = s.modify sec pt (fun pol => (OrdSet.add pol r).1) := by
  unfold Store.addPolicy
  cases h : s.find sec pt with
  | none => exact (Store.modify_of_find_none h _).symm
  | some d => rfl

theorem Store.addPolicy_snd (s : Store) (sec pt : String) (r : Rule) :
    (s.addPolicy sec pt r).2 = true ↔ (s.find sec pt).isSome = true ∧ r ∉ s.getPolicy sec pt := by
  unfold Store.addPolicy
  cases h : s.find sec pt with
  | none => simp
  | some d => simp [Store.getPolicy_of_find h, OrdSet.add_snd]

theorem Store.removePolicy_fst (s : Store) (sec pt : String) (r : Rule) :
    (s.removePolicy sec pt r).1 = s.modify sec pt (fun pol => (OrdSet.remove pol r).1) := by
  unfold Store.removePolicy
  cases h : s.find sec pt with
  | none => exact (Store.modify_of_find_none h _).symm
  | some d => rfl

theorem Store.removePolicy_snd (s : Store) (sec pt : String) (r : Rule) :
    (s.removePolicy sec pt r).2 = true ↔ r ∈ s.getPolicy sec pt := by
  unfold Store.removePolicy
  cases h : s.find sec pt with
  | none => simp [Store.getPolicy_of_find_none h]
  | some d => simp [Store.getPolicy_of_find h, OrdSet.remove_snd]

theorem Store.addPolicies_fst (s : Store) (sec pt : String) (rs : List Rule) :
    (s.addPolicies sec pt rs).1 =
      if (s.addPolicies sec pt rs).2 = true then s.modify sec pt (fun pol => OrdSet.addAll pol rs) else s := by
  unfold Store.addPolicies
  cases s.find sec pt with
  | none => rfl
  | some d => exact allOrNothing_fst _ _ _

theorem Store.addPolicies_snd (s : Store) (sec pt : String) (rs : List Rule) :
    (s.addPolicies sec pt rs).2 = true ↔ (s.find sec pt).isSome = true ∧ ∀ r ∈ rs, r ∉ s.getPolicy sec pt := by
  unfold Store.addPolicies
  cases h : s.find sec pt with
  | none => simp
  | some d => rw [Store.getPolicy_of_find h]; exact (allOrNothing_snd _ _ _).trans (by simp)

theorem Store.removePolicies_fst (s : Store) (sec pt : String) (rs : List Rule) :
    (s.removePolicies sec pt rs).1 =
      if (s.removePolicies sec pt rs).2 = true then s.modify sec pt (fun pol => OrdSet.removeAll pol rs) else s := by
  unfold Store.removePolicies
  cases s.find sec pt with
  | none => rfl
  | some d => exact allOrNothing_fst _ _ _

theorem Store.removePolicies_snd (s : Store) (sec pt : String) (rs : List Rule) :
    (s.removePolicies sec pt rs).2 = true ↔ (s.find sec pt).isSome = true ∧ ∀ r ∈ rs, r ∈ s.getPolicy sec pt := by
  unfold Store.removePolicies
  cases h : s.find sec pt with
  | none => simp
  | some d => rw [Store.getPolicy_of_find h]; exact (allOrNothing_snd _ _ _).trans (by simp)

theorem Store.removeFiltered_fst (s : Store) (sec pt : String) (idx : Nat) (vals : List String) :
    (s.removeFiltered sec pt idx vals).1 =
      if (s.removeFiltered sec pt idx vals).2.1 = true then
        s.modify sec pt (fun pol => pol.filter (fun r => !filterMatch idx vals r)) else s := by
  unfold Store.removeFiltered
  by_cases hv : vals.isEmpty = true
  · simp only [if_pos hv]; rfl
  · simp only [if_neg hv]
    cases s.find sec pt with
    | none => rfl
    | some d =>
      dsimp only
      by_cases he : (d.policy.filter (filterMatch idx vals)).isEmpty = true
      · simp only [if_pos he]; rfl
      · simp only [if_neg he]; rfl

theorem Store.removeFiltered_snd (s : Store) (sec pt : String) (idx : Nat) (vals : List String) :
    (s.removeFiltered sec pt idx vals).2 =
      if vals = [] then (false, []) else
        (!((s.getPolicy sec pt).filter (filterMatch idx vals)).isEmpty, (s.getPolicy sec pt).filter (filterMatch idx vals)) := by
  unfold Store.removeFiltered
  cases vals with
  | nil => rfl
  | cons v vs =>
    rw [if_neg (by simp), if_neg (by simp)]
    cases h : s.find sec pt with
    | none => rw [Store.getPolicy_of_find_none h]; rfl
    | some d =>
      rw [Store.getPolicy_of_find h]; dsimp only
      by_cases he : (d.policy.filter (filterMatch idx (v :: vs))).isEmpty = true
      · rw [if_pos he, he, List.isEmpty_iff.1 he]; rfl
      · rw [if_neg he, Bool.eq_false_iff.2 he]; rfl

theorem Store.removeFiltered_flag (s : Store) (sec pt : String) (idx : Nat) (vals : List String) :
    (s.removeFiltered sec pt idx vals).2.1 = true ↔ vals ≠ [] ∧ ∃ r ∈ s.getPolicy sec pt, filterMatch idx vals r = true := by
  rw [Store.removeFiltered_snd]
  by_cases hv : vals = []
  · rw [if_pos hv]; exact ⟨fun h => Bool.noConfusion h, fun h => absurd hv h.1⟩
  · rw [if_neg hv]; simp [hv]

/-- for the operations that `modify` only when their flag is set -/
theorem Store.getPolicy_ite_modify (s : Store) (b : Bool) (sec pt : String) (g : List Rule → List Rule)
    (hb : b = true → (s.find sec pt).isSome = true) (sec' pt' : String) :
    (if b = true then s.modify sec pt g else s).getPolicy sec' pt' =
      if b = true ∧ sec = sec' ∧ pt = pt' then g (s.getPolicy sec' pt') else s.getPolicy sec' pt' := by
  cases b with
  | false => rw [if_neg Bool.false_ne_true, if_neg (fun h => Bool.false_ne_true h.1)]
  | true =>
    rw [if_pos rfl, Store.getPolicy_modify]
    by_cases hk : sec = sec' ∧ pt = pt'
    · rw [if_pos ⟨hk, hk.1 ▸ hk.2 ▸ hb rfl⟩, if_pos ⟨rfl, hk⟩]
    · rw [if_neg (fun h => hk h.1), if_neg (fun h => hk h.2)]

/-- for `addPolicy` and `removePolicy`, which `modify` whatever their flag `b`: when it is false, `g` fixes the list
named (`hid`) -/
theorem Store.getPolicy_modify_flag (s : Store) (b : Bool) (sec pt : String) (g : List Rule → List Rule)
    (hb : b = true → (s.find sec pt).isSome = true)
    (hid : b = false → (s.find sec pt).isSome = true → g (s.getPolicy sec pt) = s.getPolicy sec pt) (sec' pt' : String) :
    (s.modify sec pt g).getPolicy sec' pt' =
      if b = true ∧ sec = sec' ∧ pt = pt' then g (s.getPolicy sec' pt') else s.getPolicy sec' pt' := by
  rw [← Store.getPolicy_ite_modify s b sec pt g hb]
  cases b with
  | true => rfl
  | false =>
    rw [if_neg Bool.false_ne_true, Store.getPolicy_modify]
    split
    · rename_i h; obtain ⟨⟨rfl, rfl⟩, hs⟩ := h; exact hid rfl hs
    · rfl

theorem Store.getPolicy_addPolicy (s : Store) (sec pt : String) (r : Rule) (sec' pt' : String) :
    (s.addPolicy sec pt r).1.getPolicy sec' pt' =
      if (s.addPolicy sec pt r).2 = true ∧ sec = sec' ∧ pt = pt' then (OrdSet.add (s.getPolicy sec' pt') r).1
      else s.getPolicy sec' pt' := by
  rw [Store.addPolicy_fst]
  exact s.getPolicy_modify_flag (s.addPolicy sec pt r).2 sec pt (fun pol => (OrdSet.add pol r).1)
    (fun h => ((s.addPolicy_snd sec pt r).1 h).1)
    (fun h hs => OrdSet.add_present <| Decidable.byContradiction fun hr =>
      Bool.eq_false_iff.1 h ((s.addPolicy_snd sec pt r).2 ⟨hs, hr⟩)) sec' pt'

theorem Store.getPolicy_removePolicy (s : Store) (sec pt : String) (r : Rule) (sec' pt' : String) :
    (s.removePolicy sec pt r).1.getPolicy sec' pt' =
      if (s.removePolicy sec pt r).2 = true ∧ sec = sec' ∧ pt = pt' then (OrdSet.remove (s.getPolicy sec' pt') r).1
      else s.getPolicy sec' pt' := by
  rw [Store.removePolicy_fst]
  exact s.getPolicy_modify_flag (s.removePolicy sec pt r).2 sec pt (fun pol => (OrdSet.remove pol r).1)
    (fun h => Store.find_isSome_of_mem ((s.removePolicy_snd sec pt r).1 h))
    (fun h _ => OrdSet.remove_absent fun hr => Bool.eq_false_iff.1 h ((s.removePolicy_snd sec pt r).2 hr)) sec' pt'

theorem Store.getPolicy_addPolicies (s : Store) (sec pt : String) (rs : List Rule) (sec' pt' : String) :
    (s.addPolicies sec pt rs).1.getPolicy sec' pt' =
      if (s.addPolicies sec pt rs).2 = true ∧ sec = sec' ∧ pt = pt' then OrdSet.addAll (s.getPolicy sec' pt') rs
      else s.getPolicy sec' pt' := by
  rw [Store.addPolicies_fst]
  exact s.getPolicy_ite_modify _ sec pt _ (fun h => ((s.addPolicies_snd sec pt rs).1 h).1) sec' pt'

theorem Store.getPolicy_removePolicies (s : Store) (sec pt : String) (rs : List Rule) (sec' pt' : String) :
    (s.removePolicies sec pt rs).1.getPolicy sec' pt' =
      if (s.removePolicies sec pt rs).2 = true ∧ sec = sec' ∧ pt = pt' then OrdSet.removeAll (s.getPolicy sec' pt') rs
      else s.getPolicy sec' pt' := by
  rw [Store.removePolicies_fst]
  exact s.getPolicy_ite_modify _ sec pt _ (fun h => ((s.removePolicies_snd sec pt rs).1 h).1) sec' pt'

theorem Store.getPolicy_removeFiltered (s : Store) (sec pt : String) (idx : Nat) (vals : List String) (sec' pt' : String) :
    (s.removeFiltered sec pt idx vals).1.getPolicy sec' pt' =
      if (s.removeFiltered sec pt idx vals).2.1 = true ∧ sec = sec' ∧ pt = pt' then
        (s.getPolicy sec' pt').filter (fun r => !filterMatch idx vals r)
      else s.getPolicy sec' pt' := by
  rw [Store.removeFiltered_fst]
  refine s.getPolicy_ite_modify _ sec pt _ (fun h => ?_) sec' pt'
  obtain ⟨_, r, hr, _⟩ := (s.removeFiltered_flag sec pt idx vals).1 h
  exact Store.find_isSome_of_mem hr

/-- `getPolicy_removeFiltered` without the flag: when nothing is selected the filter keeps every rule -/
theorem Store.getPolicy_removeFiltered_of_filter (s : Store) (sec pt : String) (idx : Nat) (vals : List String)
    (sec' pt' : String) :
    (s.removeFiltered sec pt idx vals).1.getPolicy sec' pt' =
      if sec = sec' ∧ pt = pt' ∧ vals ≠ [] then (s.getPolicy sec' pt').filter (fun r => !filterMatch idx vals r)
      else s.getPolicy sec' pt' := by
  rw [Store.getPolicy_removeFiltered]
  by_cases hk : sec = sec' ∧ pt = pt'
  · by_cases hc : (s.removeFiltered sec pt idx vals).2.1 = true
    · rw [if_pos ⟨hc, hk⟩, if_pos ⟨hk.1, hk.2, ((s.removeFiltered_flag sec pt idx vals).1 hc).1⟩]
    · rw [if_neg (fun h => hc h.1)]
      split
      · rename_i h
        refine (List.filter_eq_self.2 fun r hr => ?_).symm
        cases hm : filterMatch idx vals r with
        | false => rfl
        | true => exact absurd ((s.removeFiltered_flag sec pt idx vals).2 ⟨h.2.2, r, hk.1 ▸ hk.2 ▸ hr, hm⟩) hc
      · rfl
  · rw [if_neg (fun h => hk h.2), if_neg (fun h => hk ⟨h.1, h.2.1⟩)]

/-! a batch replayed rule by rule (what a replica makes of a batch event, C14) leaves the rule lists the batch leaves -/

theorem Store.foldl_modify_getPolicy {α : Type} (step : List Rule → α → List Rule) (xs : List α) (s : Store)
    (sec pt sec' pt' : String) :
    (xs.foldl (fun s x => s.modify sec pt (fun pol => step pol x)) s).getPolicy sec' pt' =
      (s.modify sec pt (fun pol => xs.foldl step pol)).getPolicy sec' pt' := by
  induction xs generalizing s with
  | nil => rw [List.foldl_nil, Store.getPolicy_modify]; split <;> rfl
  | cons x xs ih =>
    rw [List.foldl_cons, ih, Store.getPolicy_modify, Store.getPolicy_modify, Store.getPolicy_modify,
      Store.find_isSome_modify]
    split <;> rfl

theorem Store.foldAdd_getPolicy (rules : List Rule) (s : Store) (sec pt sec' pt' : String) :
    (rules.foldl (fun s r => (s.addPolicy sec pt r).1) s).getPolicy sec' pt' =
      (s.modify sec pt (fun pol => OrdSet.addAll pol rules)).getPolicy sec' pt' := by
  simp only [Store.addPolicy_fst, OrdSet.addAll_eq_foldl]
  exact Store.foldl_modify_getPolicy (fun pol r => (OrdSet.add pol r).1) rules s sec pt sec' pt'

theorem Store.foldRemove_getPolicy (rules : List Rule) (s : Store) (sec pt sec' pt' : String) :
    (rules.foldl (fun s r => (s.removePolicy sec pt r).1) s).getPolicy sec' pt' =
      (s.modify sec pt (fun pol => OrdSet.removeAll pol rules)).getPolicy sec' pt' := by
  simp only [Store.removePolicy_fst, OrdSet.removeAll_eq_foldl]
  exact Store.foldl_modify_getPolicy (fun pol r => (OrdSet.remove pol r).1) rules s sec pt sec' pt'

theorem Store.sec_clear (s : Store) (sec : String) :
    s.clear.sec sec = (s.sec sec).map (fun d => { d with policy := [] }) := by
  unfold Store.sec Store.clear
  by_cases h1 : sec = "p"
  · simp only [if_pos h1]
  · by_cases h2 : sec = "g"
    · simp only [if_neg h1, if_pos h2]
    · simp only [if_neg h1, if_neg h2]; rfl

theorem Store.find_clear (s : Store) (sec pt : String) :
    s.clear.find sec pt = (s.find sec pt).map (fun d => { d with policy := [] }) := by
  unfold Store.find
  rw [Store.sec_clear, find?_map_key _ (fun d => { d with policy := [] }) (fun _ => rfl)]

theorem Store.find_isSome_clear (s : Store) (sec pt : String) : (s.clear.find sec pt).isSome = (s.find sec pt).isSome := by
  rw [Store.find_clear]; exact Option.isSome_map

theorem Store.getPolicy_clear (s : Store) (sec pt : String) : s.clear.getPolicy sec pt = [] := by
  unfold Store.getPolicy
  rw [Store.find_clear]
  cases s.find sec pt <;> rfl

theorem mem_lastOccurrenceOrder (l : List String) (y : String) : y ∈ lastOccurrenceOrder l ↔ y ∈ l := by
  induction l with
  | nil => exact Iff.rfl
  | cons a as ih =>
    unfold lastOccurrenceOrder
    split
    · rw [ih, List.mem_cons]; exact ⟨Or.inr, fun h => h.elim (fun e => e ▸ ‹a ∈ as›) id⟩
    · rw [List.mem_cons, List.mem_cons, ih]

/-- every rule list is duplicate free (the "`Nodup`" of Store.lean's header: the set half of `LinkedHashSet`); kept by
every operation: `Mgmt.Std.wf` (Lemmas/StoreStep), `C04.step_wf` -/
def Store.WF (s : Store) : Prop := ∀ sec pt, (s.getPolicy sec pt).Nodup

theorem Store.WF.clear {s : Store} : s.clear.WF := fun sec pt => by
  rw [Store.getPolicy_clear]; exact List.nodup_nil

end Casbin
