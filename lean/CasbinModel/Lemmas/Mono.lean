import CasbinModel.Matcher
/-! `Expr.eval` in both directions: the value of an expression from the values of its operands (C07), and what a
true `&&`, `||` or g-call says of its operands; from the latter, monotonicity of negation-free matchers in the role
links (C08). -/
namespace Casbin

/-- what the crate's matchers pass to `==`, g and built-ins; the value does not depend on the role manager
(`linkFree_eval`) -/
inductive LinkFree : Expr → Prop
  | lit (a) : LinkFree (.lit a)
  | r (i) : LinkFree (.r i)
  | p (i) : LinkFree (.p i)
  | attr {e f} : LinkFree e → LinkFree (.attr e f)
  | unknownVar : LinkFree .unknownVar

/-- the fragment `eval_mono` covers: literals, `==`, `&&`, `||`, g-calls and built-ins, with link-free operands under
`==`, g and built-ins.  No `!`, no comparison other than `==`, no `eval`, no g-call inside an operand. -/
inductive Positive : Expr → Prop
  | lit (a) : Positive (.lit a)
  | cmpEq {a b} : LinkFree a → LinkFree b → Positive (.cmp .eq a b)
  | and {a b} : Positive a → Positive b → Positive (.and a b)
  | or {a b} : Positive a → Positive b → Positive (.or a b)
  | g2 {n a b} : LinkFree a → LinkFree b → Positive (.g2 n a b)
  | g3 {n a b c} : LinkFree a → LinkFree b → LinkFree c → Positive (.g3 n a b c)
  | call2 {f a b} : LinkFree a → LinkFree b → Positive (.call2 f a b)
  | call3 {f a b c} : LinkFree a → LinkFree b → LinkFree c → Positive (.call3 f a b c)

/-- `env'` is `env` with a role manager that answers `true` at least as often -/
structure EnvLe (env env' : Env) : Prop where
  req : env'.req = env.req
  rule : env'.rule = env.rule
  gfuncs : env'.gfuncs = env.gfuncs
  call : env'.call = env.call
  tbl : env'.tbl = env.tbl
  links : ∀ a b d, env.rm.hasLink a b d = true → env'.rm.hasLink a b d = true

theorem linkFree_eval {env env' : Env} (h : EnvLe env env') {e : Expr} (hl : LinkFree e) (f : Nat) :
    e.eval env' f = e.eval env f := by
  induction hl with
  | lit a => unfold Expr.eval; rfl
  | r i => unfold Expr.eval; rw [h.req]
  | p i => unfold Expr.eval; rw [h.rule]
  | attr _ ih => unfold Expr.eval; rw [ih]
  | unknownVar => unfold Expr.eval; rfl

abbrev vtrue : Option Val := some (.atom (.bool true))
abbrev vfalse : Option Val := some (.atom (.bool false))

theorem evalBool_eq_some {env : Env} {e : Expr} {b : Bool} :
    e.evalBool env = some b ↔ e.eval env 8 = some (.atom (.bool b)) := by
  unfold Expr.evalBool
  constructor
  · intro h; split at h
    · rename_i hv; cases h; exact hv
    · cases h
  · intro h; rw [h]

theorem r_eval (env : Env) (f i : Nat) : (Expr.r i).eval env f = env.req[i]? := by
  unfold Expr.eval; rfl

theorem p_eval (env : Env) (f i : Nat) : (Expr.p i).eval env f = (env.rule[i]?).map fun s => .atom (.str s) := by
  unfold Expr.eval; rfl

theorem cmp_eval {env : Env} {f : Nat} {op : CmpOp} {a b : Expr} {x y : Val}
    (ha : a.eval env f = some x) (hb : b.eval env f = some y) :
    (Expr.cmp op a b).eval env f = some (.atom (.bool (cmpVal op x y))) := by
  unfold Expr.eval; rw [ha, hb]

theorem and_eval {env : Env} {f : Nat} {a b : Expr} {x y : Bool} (ha : a.eval env f = some (.atom (.bool x)))
    (hb : x = true → b.eval env f = some (.atom (.bool y))) :
    (Expr.and a b).eval env f = some (.atom (.bool (x && y))) := by
  unfold Expr.eval; rw [ha]
  cases x with
  | false => rfl
  | true => dsimp only; rw [hb rfl]; rfl

theorem or_eval {env : Env} {f : Nat} {a b : Expr} {x y : Bool} (ha : a.eval env f = some (.atom (.bool x)))
    (hb : x = false → b.eval env f = some (.atom (.bool y))) :
    (Expr.or a b).eval env f = some (.atom (.bool (x || y))) := by
  unfold Expr.eval; rw [ha]
  cases x with
  | true => rfl
  | false => dsimp only; rw [hb rfl]; rfl

theorem g2_eval {env : Env} {f : Nat} {n : String} {a b : Expr} {s t : String}
    (ha : a.eval env f = some (.atom (.str s))) (hb : b.eval env f = some (.atom (.str t)))
    (hg : (n, 2) ∈ env.gfuncs) :
    (Expr.g2 n a b).eval env f = some (.atom (.bool (env.rm.hasLink s t "DEFAULT"))) := by
  unfold Expr.eval; rw [ha, hb]; dsimp only; rw [if_pos hg]; rfl

theorem g3_eval {env : Env} {f : Nat} {n : String} {a b c : Expr} {s t d : String}
    (ha : a.eval env f = some (.atom (.str s))) (hb : b.eval env f = some (.atom (.str t)))
    (hc : c.eval env f = some (.atom (.str d))) (hg : (n, 3) ∈ env.gfuncs) :
    (Expr.g3 n a b c).eval env f = some (.atom (.bool (env.rm.hasLink s t d))) := by
  unfold Expr.eval; rw [ha, hb, hc]; dsimp only; rw [if_pos hg]; rfl

theorem and_eq_vtrue {env : Env} {f : Nat} {a b : Expr} (h : (Expr.and a b).eval env f = vtrue) :
    a.eval env f = vtrue ∧ b.eval env f = vtrue := by
  unfold Expr.eval at h
  split at h
  · cases h
  · rename_i ha
    split at h
    · rename_i hb; cases h; exact ⟨ha, hb⟩
    · cases h
  · cases h

theorem and_ne_none {env : Env} {f : Nat} {a b : Expr} (h : (Expr.and a b).eval env f ≠ none) :
    a.eval env f = vfalse ∨ (a.eval env f = vtrue ∧ b.eval env f ≠ none) := by
  unfold Expr.eval at h
  split at h
  · rename_i ha; exact .inl ha
  · rename_i ha; exact .inr ⟨ha, fun hb => by simp [hb] at h⟩
  · exact absurd rfl h

theorem or_eq_vtrue {env : Env} {f : Nat} {a b : Expr} (h : (Expr.or a b).eval env f = vtrue) :
    a.eval env f = vtrue ∨ b.eval env f = vtrue := by
  unfold Expr.eval at h
  split at h
  · rename_i ha; exact .inl ha
  · split at h
    · rename_i hb; cases h; exact .inr hb
    · cases h
  · cases h

theorem or_ne_none {env : Env} {f : Nat} {a b : Expr} (h : (Expr.or a b).eval env f ≠ none) :
    a.eval env f = vtrue ∨ (a.eval env f = vfalse ∧ b.eval env f ≠ none) := by
  unfold Expr.eval at h
  split at h
  · rename_i ha; exact .inl ha
  · rename_i ha; exact .inr ⟨ha, fun hb => by simp [hb] at h⟩
  · exact absurd rfl h

theorem asStr_eq_some {x : Val} {s : String} (h : asStr x = some s) : x = .atom (.str s) := by
  unfold asStr at h; split at h <;> cases h; rfl

theorem g2_eq_vtrue {env : Env} {f : Nat} {n : String} {a b : Expr} (h : (Expr.g2 n a b).eval env f = vtrue) :
    ∃ s t, a.eval env f = some (.atom (.str s)) ∧ b.eval env f = some (.atom (.str t)) ∧
      (n, 2) ∈ env.gfuncs ∧ env.rm.hasLink s t "DEFAULT" = true := by
  unfold Expr.eval at h
  split at h
  · rename_i x y ha hb
    split at h
    · rename_i hg
      split at h
      · rename_i s t hs ht
        cases asStr_eq_some hs; cases asStr_eq_some ht
        exact ⟨s, t, ha, hb, hg, Atom.bool.inj (Val.atom.inj (Option.some.inj h))⟩
      · cases h
    · cases h
  · cases h

theorem g3_eq_vtrue {env : Env} {f : Nat} {n : String} {a b c : Expr} (h : (Expr.g3 n a b c).eval env f = vtrue) :
    ∃ s t d, a.eval env f = some (.atom (.str s)) ∧ b.eval env f = some (.atom (.str t)) ∧
      c.eval env f = some (.atom (.str d)) ∧ (n, 3) ∈ env.gfuncs ∧ env.rm.hasLink s t d = true := by
  unfold Expr.eval at h
  split at h
  · rename_i x y z ha hb hc
    split at h
    · rename_i hg
      split at h
      · rename_i s t d hs ht hd
        cases asStr_eq_some hs; cases asStr_eq_some ht; cases asStr_eq_some hd
        exact ⟨s, t, d, ha, hb, hc, hg, Atom.bool.inj (Val.atom.inj (Option.some.inj h))⟩
      · cases h
    · cases h
  · cases h

/-- A positive matcher that is true stays true under more links, unless it now fails.  That hypothesis cannot be
dropped: in `(x && y) || z` a new link may turn `x` true and expose an ill-typed `y` that was short-circuited before. -/
theorem eval_mono {env env' : Env} (h : EnvLe env env') {e : Expr} (hp : Positive e) (f : Nat) :
    e.eval env f = vtrue → e.eval env' f ≠ none → e.eval env' f = vtrue := by
  induction hp with
  | lit a => intro h1 _; unfold Expr.eval at h1 ⊢; exact h1
  | cmpEq ha hb =>
    intro h1 _
    unfold Expr.eval at h1 ⊢; rw [linkFree_eval h ha, linkFree_eval h hb]; exact h1
  | @and a b _ _ iha ihb =>
    intro h1 h2
    obtain ⟨ha, hb⟩ := and_eq_vtrue h1
    rcases and_ne_none h2 with ha' | ⟨ha', hb'⟩
    · cases (iha ha (by rw [ha']; simp)).symm.trans ha'
    · exact and_eval ha' fun _ => ihb hb hb'
  | @or a b _ _ iha ihb =>
    intro h1 h2
    -- an added link may turn `a` from false to true; then `b` is no longer looked at
    rcases or_ne_none h2 with ha' | ⟨ha', hb'⟩
    · exact or_eval (y := false) ha' nofun
    · rcases or_eq_vtrue h1 with ha | hb
      · cases (iha ha (by rw [ha']; simp)).symm.trans ha'
      · exact or_eval ha' fun _ => ihb hb hb'
  | @g2 n a b ha hb =>
    intro h1 _
    obtain ⟨s, t, hs, ht, hg, hl⟩ := g2_eq_vtrue h1
    rw [g2_eval ((linkFree_eval h ha f).trans hs) ((linkFree_eval h hb f).trans ht) (h.gfuncs ▸ hg),
      h.links _ _ _ hl]
  | @g3 n a b c ha hb hc =>
    intro h1 _
    obtain ⟨s, t, d, hs, ht, hd, hg, hl⟩ := g3_eq_vtrue h1
    rw [g3_eval ((linkFree_eval h ha f).trans hs) ((linkFree_eval h hb f).trans ht)
      ((linkFree_eval h hc f).trans hd) (h.gfuncs ▸ hg), h.links _ _ _ hl]
  | call2 ha hb =>
    intro h1 _
    unfold Expr.eval at h1 ⊢; rw [linkFree_eval h ha, linkFree_eval h hb, h.call]; exact h1
  | call3 ha hb hc =>
    intro h1 _
    unfold Expr.eval at h1 ⊢
    rw [linkFree_eval h ha, linkFree_eval h hb, linkFree_eval h hc, h.call]; exact h1

end Casbin
