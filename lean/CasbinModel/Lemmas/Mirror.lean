import CasbinModel.Lemmas.Load
/-! The memory adapter's lines seen per policy type (C09): `proj sec pt` picks, in order, the rules of the lines
`sec :: pt :: rule`.  Under `proj` each operation on the lines (add, remove, insert, filter) is the same operation on the
rules of the policy type it names and nothing on any other.  Last, what a save files, and the invariant `Mirror`. -/
namespace Casbin

theorem records_memory (a : AdapterSt) (h : a.kind = .memory) : a.records = memRecords a.lines := by
  simp [AdapterSt.records, h]

def untag (sec pt : String) : Rule → Option Rule
  | s :: p :: r => if s = sec ∧ p = pt then some r else none
  | _ => none

theorem untag_eq_some {sec pt : String} {l r : Rule} : untag sec pt l = some r ↔ l = tag sec pt r := by
  unfold untag tag
  split
  · split <;> simp_all [eq_comm]
  · rename_i h; simp only [reduceCtorEq, false_iff]; intro e; exact h _ _ _ e

theorem untag_tag (sec pt sec' pt' : String) (r : Rule) :
    untag sec' pt' (tag sec pt r) = if sec = sec' ∧ pt = pt' then some r else none := rfl

def proj (sec pt : String) (lines : List Rule) : List Rule := lines.filterMap (untag sec pt)

theorem proj_cons_none {sec pt : String} {l : Rule} (h : untag sec pt l = none) (ls : List Rule) :
    proj sec pt (l :: ls) = proj sec pt ls := List.filterMap_cons_none h

theorem proj_cons_some {sec pt : String} {l r : Rule} (h : untag sec pt l = some r) (ls : List Rule) :
    proj sec pt (l :: ls) = r :: proj sec pt ls := List.filterMap_cons_some h

theorem recsFor_memRecords (sec pt : String) (lines : List Rule) : recsFor sec pt (memRecords lines) = proj sec pt lines := by
  induction lines with
  | nil => rfl
  | cons l ls ih =>
    match l with
    | [] | [_] => exact ih.trans (proj_cons_none rfl ls).symm
    | s :: p :: r =>
      show recsFor sec pt ((s, p, r) :: memRecords ls) = _
      rw [recsFor_cons, ih]
      by_cases h : s = sec ∧ p = pt
      · rw [if_pos h, proj_cons_some (show untag sec pt (s :: p :: r) = some r from if_pos h)]
      · rw [if_neg h, proj_cons_none (show untag sec pt (s :: p :: r) = none from if_neg h)]

theorem proj_append (sec pt : String) (l1 l2 : List Rule) : proj sec pt (l1 ++ l2) = proj sec pt l1 ++ proj sec pt l2 :=
  List.filterMap_append

theorem proj_tag (sec pt sec' pt' : String) (rule : Rule) :
    proj sec' pt' [tag sec pt rule] = if sec = sec' ∧ pt = pt' then [rule] else [] := by
  by_cases h : sec = sec' ∧ pt = pt'
  · rw [if_pos h, proj_cons_some ((untag_tag ..).trans (if_pos h))]; rfl
  · rw [if_neg h, proj_cons_none ((untag_tag ..).trans (if_neg h))]; rfl

theorem mem_proj (sec pt : String) (rule : Rule) (lines : List Rule) :
    rule ∈ proj sec pt lines ↔ tag sec pt rule ∈ lines := by
  unfold proj
  rw [List.mem_filterMap]
  constructor
  · rintro ⟨l, hl, hu⟩; exact untag_eq_some.1 hu ▸ hl
  · exact fun h => ⟨_, h, untag_eq_some.2 rfl⟩

theorem proj_remove (sec pt sec' pt' : String) (rule : Rule) (lines : List Rule) :
    proj sec' pt' (OrdSet.remove lines (tag sec pt rule)).1 =
      if sec = sec' ∧ pt = pt' then (OrdSet.remove (proj sec' pt' lines) rule).1 else proj sec' pt' lines := by
  -- both sides to `List.erase` over the `BEq` instance of lists
  rw [OrdSet.remove_fst, OrdSet.remove_fst, erase_inst_irrel, erase_inst_irrel]
  induction lines with
  | nil => simp [proj]
  | cons l ls ih =>
    -- the head line is the tagged rule (gone on both sides if the type is `(sec', pt')`) or another line (kept on both
    -- sides: of the same type, it holds a different rule)
    by_cases hl : l = tag sec pt rule
    · subst hl
      rw [List.erase_cons_head]
      by_cases hc : sec = sec' ∧ pt = pt'
      · rw [if_pos hc, proj_cons_some ((untag_tag ..).trans (if_pos hc)), List.erase_cons_head]
      · rw [if_neg hc, proj_cons_none ((untag_tag ..).trans (if_neg hc))]
    · rw [List.erase_cons_tail (by simpa using hl)]
      cases hu : untag sec' pt' l with
      | none => rw [proj_cons_none hu, proj_cons_none hu, ih]
      | some r' =>
        rw [proj_cons_some hu, proj_cons_some hu, ih]
        by_cases hc : sec = sec' ∧ pt = pt'
        · rw [if_pos hc, if_pos hc, List.erase_cons_tail]
          simp only [beq_iff_eq]
          intro e
          exact hl (by rw [untag_eq_some.1 hu, e, hc.1, hc.2])
        · rw [if_neg hc, if_neg hc]

theorem proj_add (sec pt sec' pt' : String) (rule : Rule) (lines : List Rule) :
    proj sec' pt' (OrdSet.add lines (tag sec pt rule)).1 =
      if sec = sec' ∧ pt = pt' then (OrdSet.add (proj sec' pt' lines) rule).1 else proj sec' pt' lines := by
  rw [OrdSet.add_fst, OrdSet.add_fst]
  by_cases hc : sec = sec' ∧ pt = pt'
  · obtain ⟨rfl, rfl⟩ := hc
    simp only [mem_proj, and_self, if_true]
    split
    · rfl
    · rw [proj_append, proj_tag, if_pos ⟨rfl, rfl⟩]
  · rw [if_neg hc]
    split
    · rfl
    · rw [proj_append, proj_tag, if_neg hc, List.append_nil]

theorem proj_insertMove (sec pt sec' pt' : String) (rule : Rule) (lines : List Rule) :
    proj sec' pt' (insertMove lines (tag sec pt rule)) =
      if sec = sec' ∧ pt = pt' then insertMove (proj sec' pt' lines) rule else proj sec' pt' lines := by
  rw [insertMove_eq, insertMove_eq, proj_append, proj_remove, proj_tag]
  split
  · rfl
  · exact List.append_nil _

theorem proj_addAll (sec pt sec' pt' : String) (rules : List Rule) (lines : List Rule) :
    proj sec' pt' (OrdSet.addAll lines (rules.map (tag sec pt))) =
      if sec = sec' ∧ pt = pt' then OrdSet.addAll (proj sec' pt' lines) rules else proj sec' pt' lines := by
  induction rules generalizing lines with
  | nil => simp [OrdSet.addAll]
  | cons r rs ih =>
    simp only [List.map_cons, OrdSet.addAll]
    rw [ih, proj_add]
    split <;> rfl

theorem proj_removeAll (sec pt sec' pt' : String) (rules : List Rule) (lines : List Rule) :
    proj sec' pt' (OrdSet.removeAll lines (rules.map (tag sec pt))) =
      if sec = sec' ∧ pt = pt' then OrdSet.removeAll (proj sec' pt' lines) rules else proj sec' pt' lines := by
  induction rules generalizing lines with
  | nil => simp [OrdSet.removeAll]
  | cons r rs ih =>
    simp only [List.map_cons, OrdSet.removeAll]
    rw [ih, proj_remove]
    split <;> rfl

theorem proj_foldl_insertMove (T : List (String × String × Rule)) (acc : List Rule) (sec pt : String) :
    proj sec pt ((T.map (fun t => tag t.1 t.2.1 t.2.2)).foldl insertMove acc) =
      (recsFor sec pt T).foldl insertMove (proj sec pt acc) := by
  induction T generalizing acc with
  | nil => rfl
  | cons t rest ih =>
    obtain ⟨s, k, r⟩ := t
    rw [List.map_cons, List.foldl_cons, ih, proj_insertMove, recsFor_cons]
    split <;> rfl

/-- the memory adapter's per-line test of `remove_filtered_policy`: the local `hit` of `AdapterSt.removeFiltered` and of
`Mgmt.removeFiltered`, named -/
def lineHit (sec pt : String) (idx : Nat) (vals : List String) (l : Rule) : Bool :=
  l[0]? = some sec && l[1]? = some pt && filterMatch (idx + 2) vals l

theorem filterMatch_tag (sec pt : String) (idx : Nat) (vals : List String) (rule : Rule) :
    filterMatch (idx + 2) vals (sec :: pt :: rule) = filterMatch idx vals rule := by
  unfold filterMatch
  apply List.all_congr rfl
  intro x
  obtain ⟨v, i⟩ := x
  have : idx + 2 + i = (idx + i) + 2 := by omega
  simp only [this, List.getElem?_cons_succ]

theorem lineHit_tag (sec pt sec' pt' : String) (idx : Nat) (vals : List String) (r : Rule) :
    lineHit sec pt idx vals (tag sec' pt' r) = (decide (sec' = sec ∧ pt' = pt) && filterMatch idx vals r) := by
  unfold lineHit tag
  rw [filterMatch_tag]
  simp

theorem proj_filter (sec pt sec' pt' : String) (idx : Nat) (vals : List String) (lines : List Rule) :
    proj sec' pt' (lines.filter (fun l => !lineHit sec pt idx vals l)) =
      if sec = sec' ∧ pt = pt' then (proj sec' pt' lines).filter (fun r => !filterMatch idx vals r)
      else proj sec' pt' lines := by
  induction lines with
  | nil => simp [proj]
  | cons l ls ih =>
    -- a line filed elsewhere is invisible on both sides; on a line `tag sec' pt' r` the test is
    -- `(sec, pt) = (sec', pt') && filterMatch idx vals r` (`lineHit_tag`)
    rw [List.filter_cons]
    cases hu : untag sec' pt' l with
    | none =>
      rw [proj_cons_none hu, ← ih]
      split
      · exact proj_cons_none hu _
      · rfl
    | some r =>
      rw [proj_cons_some hu, untag_eq_some.1 hu, lineHit_tag]
      by_cases hc : sec = sec' ∧ pt = pt'
      · rw [if_pos hc, decide_eq_true ⟨hc.1.symm, hc.2.symm⟩, Bool.true_and, List.filter_cons]
        rw [if_pos hc] at ih
        split
        · rw [proj_cons_some (untag_eq_some.2 rfl), ih]
        · exact ih
      · rw [if_neg hc, decide_eq_false (fun h => hc ⟨h.1.symm, h.2.symm⟩), Bool.false_and, Bool.not_false, if_pos rfl,
          proj_cons_some (untag_eq_some.2 rfl), ih, if_neg hc]

theorem lineHit_eq (sec pt : String) (idx : Nat) (vals : List String) (l : Rule) :
    lineHit sec pt idx vals l = (untag sec pt l).any (filterMatch idx vals) := by
  match l with
  | [] | [_] => simp [lineHit, untag]
  | s :: p :: r =>
    rw [show s :: p :: r = tag s p r from rfl, lineHit_tag, untag_tag]
    by_cases h : s = sec ∧ p = pt <;> simp [h]

theorem any_lineHit (sec pt : String) (idx : Nat) (vals : List String) (lines : List Rule) :
    lines.any (lineHit sec pt idx vals) = (proj sec pt lines).any (filterMatch idx vals) :=
  (List.any_congr rfl (lineHit_eq sec pt idx vals)).trans List.any_filterMap.symm

/-! What a save files under `(sec, pt)`: the saver files `d`'s rules under `(tagOf d, d.key)` (`AdapterSt.save`), and the
`flatMap` below is what `recsFor_flatMap`, `recsFor_const` leave of that in `C09.recsFor_allRecords`, the one caller. -/

/-- the section a saver files a definition under: the first character of its key -/
def tagOf (d : PolDef) : String := String.ofList (d.key.toList.take 1)

theorem flatMap_filed_none (ds : List PolDef) (sec pt : String) (h : ∀ d ∈ ds, ¬ (tagOf d = sec ∧ d.key = pt)) :
    ds.flatMap (fun d => if tagOf d = sec ∧ d.key = pt then d.policy else []) = [] :=
  List.flatMap_eq_nil_iff.2 fun d hd => if_neg (h d hd)

theorem flatMap_filed_unique (ds : List PolDef) (sec pt : String) (htag : ∀ d ∈ ds, tagOf d = sec)
    (hkeys : (ds.map (·.key)).Nodup) :
    ds.flatMap (fun d => if tagOf d = sec ∧ d.key = pt then d.policy else []) =
      (match ds.find? (·.key = pt) with | some d => d.policy | none => []) := by
  induction ds with
  | nil => rfl
  | cons d rest ih =>
    rw [List.map_cons, List.nodup_cons] at hkeys
    rw [List.flatMap_cons, List.find?_cons]
    by_cases hk : d.key = pt
    · rw [if_pos ⟨htag d List.mem_cons_self, hk⟩, decide_eq_true hk,
        flatMap_filed_none rest sec pt fun x hx h => hkeys.1 (hk ▸ h.2 ▸ List.mem_map_of_mem hx), List.append_nil]
    · rw [if_neg (fun h => hk h.2), List.nil_append, decide_eq_false hk]
      exact ih (fun x hx => htag x (List.mem_cons_of_mem _ hx)) hkeys.2

/-- the adapter's lines and the store agree on every *existing* policy type.  Only there: the memory adapter takes an
auto-saved `add` for a type the store does not know and keeps the line, the store refuses; a load drops such lines again
(`update_of_find_none`).  Hence the `isSome` hypotheses of C09. -/
def Mirror (e : Enforcer) : Prop :=
  ∀ sec pt, (e.store.find sec pt).isSome = true → recsFor sec pt (memRecords e.adapter.lines) = e.store.getPolicy sec pt

theorem mirror_iff_proj (e : Enforcer) :
    Mirror e ↔
      ∀ sec pt, (e.store.find sec pt).isSome = true → proj sec pt e.adapter.lines = e.store.getPolicy sec pt := by
  unfold Mirror; simp only [recsFor_memRecords]

end Casbin
