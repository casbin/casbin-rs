import CasbinModel.Lemmas.StoreStep
/-! The places of the role definitions (`gArities`) are kept by every rule operation, load and clear; a store without
grouping rules links without an error when every role definition has at least two places. -/
namespace Casbin

def Store.gArities (s : Store) : List Nat := s.g.map (·.arity)

theorem Mgmt.Std.gArities {m : Mgmt} (h : m.Std) (s : Store) : (m.step s).1.gArities = s.gArities :=
  h.map s (·.arity) (fun _ _ => rfl) "g"

theorem Store.clear_gArities (s : Store) : s.clear.gArities = s.gArities :=
  List.map_map

theorem loadRecords_gArities (recs : List (String × String × Rule)) (s : Store) :
    (loadRecords s recs).gArities = s.gArities := by
  unfold loadRecords
  induction recs generalizing s with
  | nil => rfl
  | cons r rest ih =>
    rw [List.foldl_cons, ih]
    exact Store.map_modify (·.arity) (fun _ _ => rfl) s r.1 r.2.1 (fun pol => insertMove pol r.2.2) "g"

theorem truncDefs_arities : ∀ (k : Nat) (ds : List PolDef), (truncDefs k ds).1.map (·.arity) = ds.map (·.arity)
  | _, [] => rfl
  | k, d :: rest => by simp only [truncDefs, List.map_cons, truncDefs_arities _ rest]

theorem Store.truncate_gArities (s : Store) (k : Nat) : (s.truncate k).gArities = s.gArities :=
  truncDefs_arities _ _

theorem AdapterSt.load_gArities (a : AdapterSt) (s : Store) : (a.load s).2.1.gArities = s.gArities := by
  unfold AdapterSt.load
  dsimp only
  split <;> simp only [Store.truncate_gArities, loadRecords_gArities]

theorem AdapterSt.loadFiltered_gArities (a : AdapterSt) (s : Store) (fp fg : List String) :
    (a.loadFiltered s fp fg).2.1.gArities = s.gArities := by
  unfold AdapterSt.loadFiltered
  dsimp only
  split <;> simp only [Store.truncate_gArities, loadRecords_gArities]

theorem buildRoleLinks_go_empty (gs : List PolDef) (rm : RoleMgr String)
    (hp : ∀ d ∈ gs, d.policy = []) (ha : ∀ d ∈ gs, 2 ≤ d.arity) :
    (buildRoleLinks.go rm gs).2 = none := by
  induction gs generalizing rm with
  | nil => rfl
  | cons d rest ih =>
    have hd : buildDef rm d = (rm, none) := by
      unfold buildDef
      rw [if_neg (Nat.not_lt.2 (ha d List.mem_cons_self)), hp d List.mem_cons_self]
      rfl
    unfold buildRoleLinks.go
    rw [hd]
    exact ih rm (fun x hx => hp x (List.mem_cons_of_mem _ hx)) (fun x hx => ha x (List.mem_cons_of_mem _ hx))

theorem buildRoleLinks_cleared (rm : RoleMgr String) (s : Store) (ha : ∀ a ∈ s.gArities, 2 ≤ a) :
    (buildRoleLinks rm s.clear.g).2 = none := by
  refine buildRoleLinks_go_empty _ _ (fun d hd => ?_) (fun d hd => ?_) <;> obtain ⟨d0, h0, rfl⟩ := List.mem_map.1 hd
  · rfl
  · exact ha d0.arity (List.mem_map_of_mem (f := PolDef.arity) h0)

end Casbin
