import CasbinModel.Enforcer
import CasbinModel.Lemmas.Store
/-! Loading records into a store (C09, C12): `recsFor sec pt` picks the rules a record list offers one policy type, and a
load folds `insertMove` over them (`getPolicy_loadRecords`).  (`loadRecords`, `AdapterSt.load`: Enforcer.lean:212-245; `insertMove`, `Store.loadInsert`:
Adapter.lean.) -/
namespace Casbin

def recsFor (sec pt : String) (recs : List (String × String × Rule)) : List Rule :=
  (recs.filter (fun r => decide (r.1 = sec ∧ r.2.1 = pt))).map (·.2.2)

theorem recsFor_cons (sec pt s p : String) (r : Rule) (rest : List (String × String × Rule)) :
    recsFor sec pt ((s, p, r) :: rest) = if s = sec ∧ p = pt then r :: recsFor sec pt rest else recsFor sec pt rest := by
  unfold recsFor
  rw [List.filter_cons]
  by_cases h : s = sec ∧ p = pt
  · rw [if_pos (decide_eq_true h), if_pos h]; rfl
  · rw [if_neg (by simpa using h), if_neg h]

theorem recsFor_append (sec pt : String) (r1 r2 : List (String × String × Rule)) :
    recsFor sec pt (r1 ++ r2) = recsFor sec pt r1 ++ recsFor sec pt r2 := by
  simp [recsFor]

theorem recsFor_filter (sec pt : String) (recs : List (String × String × Rule)) (k : String → Rule → Bool) :
    recsFor sec pt (recs.filter (fun r => k r.1 r.2.2)) = (recsFor sec pt recs).filter (k sec) := by
  unfold recsFor
  rw [List.filter_map, List.filter_filter, List.filter_filter]
  congr 1
  apply List.filter_congr
  intro r _
  by_cases h : r.1 = sec ∧ r.2.1 = pt
  · rw [decide_eq_true h, Bool.true_and, Bool.and_true, h.1]; rfl
  · rw [decide_eq_false h, Bool.false_and, Bool.and_false]

theorem recsFor_flatMap {α : Type} (sec pt : String) (ds : List α) (f : α → List (String × String × Rule)) :
    recsFor sec pt (ds.flatMap f) = ds.flatMap (fun d => recsFor sec pt (f d)) := by
  unfold recsFor; rw [List.filter_flatMap, List.map_flatMap]

theorem recsFor_const (sec pt s k : String) (rs : List Rule) :
    recsFor sec pt (rs.map (fun r => (s, k, r))) = if s = sec ∧ k = pt then rs else [] := by
  induction rs with
  | nil => simp [recsFor]
  | cons r rest ih =>
    rw [List.map_cons, recsFor_cons, ih]
    split <;> rfl

theorem insertMove_eq (s : List Rule) (v : Rule) : insertMove s v = (OrdSet.remove s v).1 ++ [v] := by
  unfold insertMove
  rw [OrdSet.remove_fst, erase_inst_irrel]
  split
  · rfl
  · rename_i h; rw [List.erase_of_not_mem h]

theorem foldl_insertMove_of_nodup (l acc : List Rule) (hn : l.Nodup) (hd : ∀ x ∈ l, x ∉ acc) :
    l.foldl insertMove acc = acc ++ l := by
  induction l generalizing acc with
  | nil => exact (List.append_nil acc).symm
  | cons v vs ih =>
    have hn' := List.nodup_cons.mp hn
    rw [List.foldl_cons, insertMove_eq, OrdSet.remove_absent (hd v List.mem_cons_self), ih _ hn'.2, List.append_assoc]
    · rfl
    · intro x hx hxa
      rcases List.mem_append.1 hxa with h | h
      · exact hd x (List.mem_cons_of_mem _ hx) h
      · exact hn'.1 (List.mem_singleton.1 h ▸ hx)

theorem Store.loadInsert_eq (s : Store) (sec pt : String) (r : Rule) :
    s.loadInsert sec pt r = s.modify sec pt (insertMove · r) := rfl

theorem getPolicy_loadRecords (recs : List (String × String × Rule)) (s : Store) (sec pt : String)
    (hsome : (s.find sec pt).isSome = true) :
    (loadRecords s recs).getPolicy sec pt = (recsFor sec pt recs).foldl insertMove (s.getPolicy sec pt) := by
  induction recs generalizing s with
  | nil => rfl
  | cons r rest ih =>
    obtain ⟨rs, rp, rule⟩ := r
    show (loadRecords (s.loadInsert rs rp rule) rest).getPolicy sec pt = _
    rw [Store.loadInsert_eq, ih _ (by rw [Store.find_isSome_modify]; exact hsome), Store.getPolicy_modify, recsFor_cons]
    by_cases hm : rs = sec ∧ rp = pt
    · rw [if_pos ⟨hm, hsome⟩, if_pos hm]; rfl
    · rw [if_neg (fun h => hm h.1), if_neg hm]

theorem getPolicy_loadRecords_clear {recs : List (String × String × Rule)} {s : Store} {sec pt : String}
    (hex : (s.find sec pt).isSome = true) (hn : (recsFor sec pt recs).Nodup) :
    (loadRecords s.clear recs).getPolicy sec pt = recsFor sec pt recs := by
  rw [getPolicy_loadRecords _ _ _ _ ((Store.find_isSome_clear ..).trans hex), Store.getPolicy_clear,
    foldl_insertMove_of_nodup _ [] hn (fun _ _ => List.not_mem_nil)]
  exact List.nil_append _

end Casbin
