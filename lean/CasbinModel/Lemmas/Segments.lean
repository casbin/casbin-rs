import CasbinModel.KeyMatch
import CasbinModel.Lemmas.ListAux
/-!
Segment grammar of the RESTful matchers, their segment-wise specification (C15), and a pattern of the grammar through
the textual part of the crate's pipeline: `replace("/*", "/.*")`, rewriting of the named segments, regex compilation
(matching: `Lemmas/Captures.lean`).

Every written form of a pattern is `renderG star tok`: key syntaxes, text after the replacement and regular expression
differ only in how `*` and a named segment are written.  The three rewritings are instances of `scan_render`, the
compilations of `compile_reBodyR`.

In names, `repl_` is for `replSlashStar` (the variable `repl` is the text put for a named segment), `rc_`, `rbg_`,
`rbl_` for `rewriteColon`, `rewriteBraceGreedy`, `rewriteBraceLazy`.

Fuel: `∀ f, f > s.length → …`; the matchers supply `length + 1`.  `X.eq_2`, `X.eq_3`, `X.eq_4` (and `case h_9` in
`toItems_ch`) are Lean's equations for the arms of the model function `X` in the order written in `KeyMatch.lean`:
reordering the arms there breaks these proofs.
-/
namespace Casbin

/-- one `/`-separated pattern segment -/
inductive PSeg where
  | lit (s : Str)
  | named (n : Str)    -- `:name` / `{name}`
  | rest               -- `*`
  deriving DecidableEq, Repr

/-- a character of a literal segment: no regex metacharacter (`*`, `{` among them), so it compiles to itself; not `/`,
which ends the segment; not `:`, which opens a name in the colon syntax (excluded in both syntaxes) -/
def LitChar (c : Char) : Prop := isMeta c = false ∧ c ≠ '/' ∧ c ≠ ':'

instance : DecidablePred LitChar := fun c => by unfold LitChar; infer_instance

def PSeg.Ok : PSeg → Prop
  | .lit s => ∀ c ∈ s, LitChar c
  | .named n => ∀ c ∈ n, c ≠ '/'
  | .rest => True

/-- what the lazy rewriting (`\{[^/]+?\}`) needs of a name -/
def PSeg.OkLazy : PSeg → Prop
  | .named n => n ≠ [] ∧ ∀ c ∈ n, c ≠ '}'
  | _ => True

/-- what the getter's `:[^/]+` needs of a name -/
def PSeg.NameNonEmpty : PSeg → Prop
  | .named n => n ≠ []
  | _ => True

def namesOf : List PSeg → List Str
  | [] => []
  | .named n :: ps => n :: namesOf ps
  | _ :: ps => namesOf ps

/-- the pattern as written for keyMatch2 and keyGet2; spelt out, so that the specifications read without `renderG`
(`render2_eq`) -/
def render2 : List PSeg → Str
  | [] => []
  | .lit s :: ps => '/' :: s ++ render2 ps
  | .named n :: ps => '/' :: ':' :: n ++ render2 ps
  | .rest :: ps => '/' :: '*' :: render2 ps

/-- the pattern as written for keyMatch3, keyMatch4, keyMatch5 and keyGet3 (`render3_eq`) -/
def render3 : List PSeg → Str
  | [] => []
  | .lit s :: ps => '/' :: s ++ render3 ps
  | .named n :: ps => '/' :: '{' :: n ++ '}' :: render3 ps
  | .rest :: ps => '/' :: '*' :: render3 ps

/-- tails of `t` reachable by skipping a newline-free prefix, longest tail first -/
def restTails : Str → List Str
  | [] => [[]]
  | c :: cs => (c :: cs) :: (if c ≠ '\n' then restTails cs else [])

/-- the segment-wise meaning, without regular expressions: every segment starts at a `/`; a literal is that text, a
name one non-empty `/`-free run, `*` any newline-free stretch after which the remaining segments match -/
def segMatch : List PSeg → Str → Bool
  | [], k => k.isEmpty
  | .lit s :: ps, k =>
    (match k with
     | '/' :: t => s.isPrefixOf t && segMatch ps (t.drop s.length)
     | _ => false)
  | .named _ :: ps, k =>
    (match k with
     | '/' :: t => !(t.takeWhile (· ≠ '/')).isEmpty && segMatch ps (t.dropWhile (· ≠ '/'))
     | _ => false)
  | .rest :: ps, k =>
    (match k with
     | '/' :: t => (restTails t).any (fun b => segMatch ps b)
     | _ => false)

/-! ### the written forms of a pattern -/

/-- `star`: how `*` is written; `tok n`: how the segment named `n` is written -/
def renderG (star : Str) (tok : Str → Str) : List PSeg → Str
  | [] => []
  | .lit s :: ps => '/' :: s ++ renderG star tok ps
  | .named n :: ps => '/' :: tok n ++ renderG star tok ps
  | .rest :: ps => '/' :: star ++ renderG star tok ps

/-- after `replace("/*", "/.*")` -/
abbrev renderStar2 : List PSeg → Str := renderG ['.', '*'] (':' :: ·)
abbrev renderStar3 : List PSeg → Str := renderG ['.', '*'] (fun n => '{' :: n ++ ['}'])

/-- the regular-expression text, `repl` for every named segment -/
abbrev reBodyR (repl : Str) : List PSeg → Str := renderG ['.', '*'] (fun _ => repl)
abbrev reBody : List PSeg → Str := reBodyR segRe

theorem segRe_eq : segRe = ['[', '^', '/', ']', '+'] := String.toList_ofList
theorem capRe_eq : capRe = ['(', '[', '^', '/', ']', '+', ')'] := String.toList_ofList
theorem capLazyRe_eq : capLazyRe = ['(', '[', '^', '/', ']', '+', '?', ')'] := String.toList_ofList

theorem render2_eq (ps : List PSeg) : render2 ps = renderG ['*'] (':' :: ·) ps := by
  induction ps with
  | nil => rfl
  | cons p ps ih => cases p <;> simp [render2, renderG, ih]

theorem render3_eq (ps : List PSeg) : render3 ps = renderG ['*'] (fun n => '{' :: n ++ ['}']) ps := by
  induction ps with
  | nil => rfl
  | cons p ps ih => cases p <;> simp [render3, renderG, ih]

theorem renderG_head (star : Str) (tok : Str → Str) (ps : List PSeg) :
    renderG star tok ps = [] ∨ ∃ t, renderG star tok ps = '/' :: t := by
  cases ps with
  | nil => exact Or.inl rfl
  | cons p ps => cases p <;> exact Or.inr ⟨_, rfl⟩

theorem renderStar2_head (ps : List PSeg) : renderStar2 ps = [] ∨ ∃ t, renderStar2 ps = '/' :: t :=
  renderG_head ..

theorem renderStar3_head (ps : List PSeg) : renderStar3 ps = [] ∨ ∃ t, renderStar3 ps = '/' :: t :=
  renderG_head ..

/-! ### `replace("/*", "/.*")` -/

theorem repl_append (s : Str) (hs : ∀ c ∈ s, c ≠ '/') (X : Str) : replSlashStar (s ++ X) = s ++ replSlashStar X := by
  induction s with
  | nil => rfl
  | cons c s ih =>
    rw [List.cons_append, replSlashStar.eq_2 _ _ (fun _ h _ => hs c List.mem_cons_self h),
      ih (fun x hx => hs x (List.mem_cons_of_mem _ hx))]
    rfl

theorem repl_seg (b X : Str) (hb : ∀ c ∈ b, c ≠ '/') (hh : ∀ t, b ++ X ≠ '*' :: t) :
    replSlashStar ('/' :: b ++ X) = '/' :: b ++ replSlashStar X := by
  rw [List.cons_append, replSlashStar.eq_2 _ _ (fun t _ h => hh t h), repl_append b hb]
  rfl

theorem litChar_ne_star {c : Char} (h : LitChar c) : c ≠ '*' := by
  rintro rfl; cases h.1

theorem litChar_ne_brace {c : Char} (h : LitChar c) : c ≠ '{' := by
  rintro rfl; cases h.1

theorem repl_renderG (tok : Str → Str) (ps : List PSeg) (hok : ∀ p ∈ ps, p.Ok)
    (htok : ∀ n, .named n ∈ ps → (∀ c ∈ tok n, c ≠ '/') ∧ ∃ c t, tok n = c :: t ∧ c ≠ '*') :
    replSlashStar (renderG ['*'] tok ps) = renderG ['.', '*'] tok ps := by
  induction ps with
  | nil => rfl
  | cons p ps ih =>
    have ih' := ih (fun q hq => hok q (List.mem_cons_of_mem _ hq)) (fun n hn => htok n (List.mem_cons_of_mem _ hn))
    have hp := hok p List.mem_cons_self
    cases p with
    | lit s =>
      refine (repl_seg s _ (fun c hc => (hp c hc).2.1) ?_).trans (by rw [ih']; rfl)
      -- what follows the leading slash is not a `*`
      cases s with
      | nil => rcases renderG_head ['*'] tok ps with h | ⟨t, h⟩ <;> simp [h]
      | cons c s => exact fun t h => litChar_ne_star (hp c List.mem_cons_self) (List.cons.inj h).1
    | named n =>
      obtain ⟨h1, c, t, h2, hc⟩ := htok n List.mem_cons_self
      refine (repl_seg (tok n) _ h1 ?_).trans (by rw [ih']; rfl)
      rw [h2]
      exact fun t h => hc (List.cons.inj h).1
    | rest => exact congrArg (fun X => '/' :: '.' :: '*' :: X) ih'

theorem repl_render2 (ps : List PSeg) (hok : ∀ p ∈ ps, p.Ok) : replSlashStar (render2 ps) = renderStar2 ps := by
  rw [render2_eq]
  refine repl_renderG _ ps hok fun n hn => ⟨fun c hc => ?_, ':', n, rfl, by decide⟩
  rcases List.mem_cons.mp hc with rfl | hc
  · decide
  · exact hok _ hn c hc

theorem repl_render3 (ps : List PSeg) (hok : ∀ p ∈ ps, p.Ok) : replSlashStar (render3 ps) = renderStar3 ps := by
  rw [render3_eq]
  refine repl_renderG _ ps hok fun n hn => ⟨fun c hc => ?_, '{', n ++ ['}'], rfl, by decide⟩
  simp only [List.mem_cons, List.mem_append, List.mem_nil_iff, or_false] at hc
  rcases hc with (rfl | hc) | rfl
  · decide
  · exact hok _ hn c hc
  · decide

/-! ### rewriting of the named segments -/

/-- a `/`-free text before the end of a segment is the whole `/`-free run -/
theorem span_seg {a b : Str} (ha : ∀ c ∈ a, (decide (c ≠ '/')) = true) (hb : b = [] ∨ ∃ t', b = '/' :: t') :
    (a ++ b).takeWhile (· ≠ '/') = a ∧ (a ++ b).dropWhile (· ≠ '/') = b :=
  span_stop ha (by rcases hb with rfl | ⟨t', rfl⟩ <;> simp)

theorem takeWhile_dropWhile_unique (a b t : Str) (h : t = a ++ b) (ha : ∀ c ∈ a, (decide (c ≠ '/')) = true)
    (hb : b = [] ∨ ∃ t', b = '/' :: t') : a = t.takeWhile (· ≠ '/') ∧ b = t.dropWhile (· ≠ '/') :=
  h ▸ ⟨(span_seg ha hb).1.symm, (span_seg ha hb).2.symm⟩

theorem fuel_rest {tok X : Str} (htok : tok ≠ []) {f : Nat} (hf : f + 1 > (tok ++ X).length) : f > X.length := by
  have := List.length_pos_iff.mpr htok
  rw [List.length_append] at hf
  omega

section scan
variable {γ : Type} {R : Nat → Str → Str × γ}

/-- fuel bookkeeping for one token, shared by every arm of `scan_render` -/
theorem scan_step {tok repl X y : Str} {g : γ → γ} {w : γ} (htok : tok ≠ [])
    (h : ∀ f, R (f + 1) (tok ++ X) = (repl ++ (R f X).1, g (R f X).2)) (hX : ∀ f, f > X.length → R f X = (y, w)) :
    ∀ f, f > (tok ++ X).length → R f (tok ++ X) = (repl ++ y, g w)
  | 0, hf => absurd hf (Nat.not_lt_zero _)
  | f + 1, hf => by rw [h, hX f (fuel_rest htok hf)]

variable {trig : Char} (hcons : ∀ f c t, c ≠ trig → R (f + 1) (c :: t) = (c :: (R f t).1, (R f t).2))
include hcons

theorem scan_cons {c : Char} (hc : c ≠ trig) {X y : Str} {w : γ} (hX : ∀ f, f > X.length → R f X = (y, w)) :
    ∀ f, f > (c :: X).length → R f (c :: X) = (c :: y, w) :=
  scan_step (tok := [c]) (repl := [c]) (g := id) (List.cons_ne_nil _ _) (fun f => hcons f c X hc) hX

theorem scan_append {s : Str} (hs : ∀ c ∈ s, c ≠ trig) {X y : Str} {w : γ} (hX : ∀ f, f > X.length → R f X = (y, w)) :
    ∀ f, f > (s ++ X).length → R f (s ++ X) = (s ++ y, w) := by
  induction s with
  | nil => exact hX
  | cons c s ih => exact scan_cons hcons (hs c List.mem_cons_self) (ih fun x hx => hs x (List.mem_cons_of_mem _ hx))

variable {tok : Str → Str} {repl : Str} {nm : Str → γ → γ} {z : γ}

/-- A left-to-right rewriting `R` (with fuel) that copies every character but `trig` and, before the end of a segment,
puts `repl` for the token `tok n` and records `n` with `nm` turns a pattern into its regular expression and records the
names in order.  The crate's three rewritings differ in `hnamed`: where the regular expression they search for finds
the end of the name. -/
theorem scan_render (hnil : ∀ f, R (f + 1) [] = ([], z))
    (htrig : '/' ≠ trig ∧ '.' ≠ trig ∧ '*' ≠ trig) (htok : ∀ n, tok n ≠ [])
    (ps : List PSeg) (hlit : ∀ s, .lit s ∈ ps → ∀ c ∈ s, c ≠ trig)
    (hnamed : ∀ n, .named n ∈ ps → ∀ f X, (X = [] ∨ ∃ t, X = '/' :: t) →
      R (f + 1) (tok n ++ X) = (repl ++ (R f X).1, nm n (R f X).2)) :
    ∀ f, f > (renderG ['.', '*'] tok ps).length →
      R f (renderG ['.', '*'] tok ps) = (reBodyR repl ps, (namesOf ps).foldr nm z) := by
  induction ps with
  | nil => exact fun
    | 0, hf => absurd hf (Nat.lt_irrefl 0)
    | f + 1, _ => hnil f
  | cons p ps ih =>
    have ih' := ih (fun s hs => hlit s (List.mem_cons_of_mem _ hs)) (fun n hn => hnamed n (List.mem_cons_of_mem _ hn))
    cases p with
    | lit s => exact scan_cons hcons htrig.1 (scan_append hcons (hlit s List.mem_cons_self) ih')
    | named n =>
      exact scan_cons hcons htrig.1
        (scan_step (htok n) (fun f => hnamed n List.mem_cons_self f _ (renderG_head ..)) ih')
    | rest => exact scan_cons hcons htrig.1 (scan_cons hcons htrig.2.1 (scan_cons hcons htrig.2.2 ih'))

end scan

/-- `m`: the least length of a name (`:[^/]*` for the matcher, `:[^/]+` for the getter) -/
theorem rc_named (repl : Str) (m f : Nat) (n X : Str) (hn : ∀ c ∈ n, c ≠ '/') (hm : m ≤ n.length)
    (hX : X = [] ∨ ∃ t, X = '/' :: t) :
    rewriteColon repl m (f + 1) (':' :: n ++ X) =
      (repl ++ (rewriteColon repl m f X).1, n :: (rewriteColon repl m f X).2) := by
  obtain ⟨h1, h2⟩ := span_seg (fun c hc => decide_eq_true (hn c hc)) hX
  rw [List.cons_append, rewriteColon.eq_2, h1, h2, if_pos hm]

theorem rc_render (repl : Str) (m : Nat) (ps : List PSeg) (hok : ∀ p ∈ ps, p.Ok)
    (hm : ∀ n, .named n ∈ ps → m ≤ n.length) :
    ∀ f, f > (renderStar2 ps).length → rewriteColon repl m f (renderStar2 ps) = (reBodyR repl ps, namesOf ps) := by
  -- `eq_3`: a character other than `:` is copied; `eq_4`: the empty text
  have := scan_render (tok := (':' :: ·)) (nm := List.cons) (rewriteColon.eq_3 repl m)
    (fun f => rewriteColon.eq_4 repl m _ (Nat.succ_ne_zero f)) (by decide) (by simp) ps
    (fun s hs c hc => (hok _ hs c hc).2.2) (fun n hn f X => rc_named repl m f n X (hok _ hn) (hm n hn))
  simpa only [List.foldr_cons_nil] using this

theorem rc_renderStar2 (ps : List PSeg) (hok : ∀ p ∈ ps, p.Ok) :
    ∀ f, f > (renderStar2 ps).length → (rewriteColon segRe 0 f (renderStar2 ps)).1 = reBody ps :=
  fun f hf => congrArg Prod.fst (rc_render segRe 0 ps hok (fun _ _ => Nat.zero_le _) f hf)

theorem rc_renderStar2_gen (repl : Str) (ps : List PSeg) (hok : ∀ p ∈ ps, p.Ok) (hne : ∀ p ∈ ps, p.NameNonEmpty) :
    ∀ f, f > (renderStar2 ps).length →
      (rewriteColon repl 1 f (renderStar2 ps)).1 = reBodyR repl ps ∧
      (rewriteColon repl 1 f (renderStar2 ps)).2 = namesOf ps :=
  fun f hf => Prod.mk.inj (rc_render repl 1 ps hok (fun _ hn => List.length_pos_iff.mpr (hne _ hn)) f hf)

theorem brace_takeWhile (n X : Str) (hn : ∀ c ∈ n, c ≠ '/') (hX : X = [] ∨ ∃ t, X = '/' :: t) :
    (n ++ ['}'] ++ X).takeWhile (· ≠ '/') = n ++ ['}'] :=
  (span_seg (fun c hc => decide_eq_true <| by
    rcases List.mem_append.mp hc with h | h
    · exact hn c h
    · rw [List.mem_singleton.mp h]; decide) hX).1

/-- greedy `\{[^/]*\}`: up to the last `}` of the segment, whatever the name -/
theorem rbg_named (repl : Str) (f : Nat) (n X : Str) (hn : ∀ c ∈ n, c ≠ '/') (hX : X = [] ∨ ∃ t, X = '/' :: t) :
    rewriteBraceGreedy repl (f + 1) ('{' :: n ++ ['}'] ++ X) = repl ++ rewriteBraceGreedy repl f X := by
  have hl : lastIdx (· = '}') (n ++ ['}']) = some n.length := by
    simp [lastIdx, List.zipIdx_append, List.filter_append]
  rw [List.cons_append, List.cons_append, rewriteBraceGreedy.eq_2, brace_takeWhile n X hn hX, hl]
  simp

theorem rbg_renderStar3 (ps : List PSeg) (hok : ∀ p ∈ ps, p.Ok) :
    ∀ f, f > (renderStar3 ps).length → rewriteBraceGreedy segRe f (renderStar3 ps) = reBody ps := by
  -- the greedy rewriting returns no names: `γ := Unit`
  have := scan_render (R := fun f s => (rewriteBraceGreedy segRe f s, ())) (tok := fun n => '{' :: n ++ ['}']) (nm := fun _ _ => ())
    (fun f c t hc => congrArg (·, ()) (rewriteBraceGreedy.eq_3 segRe f c t hc))
    (fun f => congrArg (·, ()) (rewriteBraceGreedy.eq_4 segRe _ (Nat.succ_ne_zero f))) (by decide) (by simp) ps
    (fun s hs c hc => litChar_ne_brace (hok _ hs c hc))
    (fun n hn f X hX => congrArg (·, ()) (rbg_named segRe f n X (hok _ hn) hX))
  exact fun f hf => congrArg Prod.fst (this f hf)

/-- lazy `\{[^/]+?\}`: at least one character, then up to the first `}` -/
theorem rbl_named (repl : Str) (f : Nat) (n X : Str) (hn : ∀ c ∈ n, c ≠ '/') (hl : n ≠ [] ∧ ∀ c ∈ n, c ≠ '}')
    (hX : X = [] ∨ ∃ t, X = '/' :: t) :
    rewriteBraceLazy repl (f + 1) ('{' :: n ++ ['}'] ++ X) =
      (repl ++ (rewriteBraceLazy repl f X).1, n :: (rewriteBraceLazy repl f X).2) := by
  have h0 : n.zipIdx.filter (fun (c, i) => c = '}' && i ≥ 1) = [] :=
    List.filter_eq_nil_iff.mpr fun x hx => by simp [hl.2 _ (List.fst_mem_of_mem_zipIdx hx)]
  have hk : (((n ++ ['}']).zipIdx.filter (fun (c, i) => c = '}' && i ≥ 1)).map (·.2)).head? = some n.length := by
    simpa [List.zipIdx_append, List.filter_append, h0] using hl.1
  rw [List.cons_append, List.cons_append, rewriteBraceLazy.eq_2, brace_takeWhile n X hn hX, hk]
  simp

theorem rbl_render (repl : Str) (ps : List PSeg) (hok : ∀ p ∈ ps, p.Ok) (hlz : ∀ p ∈ ps, p.OkLazy) :
    ∀ f, f > (renderStar3 ps).length → rewriteBraceLazy repl f (renderStar3 ps) = (reBodyR repl ps, namesOf ps) := by
  have := scan_render (tok := fun n => '{' :: n ++ ['}']) (nm := List.cons) (rewriteBraceLazy.eq_3 repl)
    (fun f => rewriteBraceLazy.eq_4 repl _ (Nat.succ_ne_zero f)) (by decide) (by simp) ps
    (fun s hs c hc => litChar_ne_brace (hok _ hs c hc))
    (fun n hn f X => rbl_named repl f n X (hok _ hn) (hlz _ hn))
  simpa only [List.foldr_cons_nil] using this

theorem rbl_renderStar3_gen (repl : Str) (ps : List PSeg) (hok : ∀ p ∈ ps, p.Ok) (hlz : ∀ p ∈ ps, p.OkLazy) :
    ∀ f, f > (renderStar3 ps).length →
      (rewriteBraceLazy repl f (renderStar3 ps)).1 = reBodyR repl ps ∧
      (rewriteBraceLazy repl f (renderStar3 ps)).2 = namesOf ps :=
  fun f hf => Prod.mk.inj (rbl_render repl ps hok hlz f hf)

theorem rbl_renderStar3 (ps : List PSeg) (hok : ∀ p ∈ ps, p.Ok) (hlz : ∀ p ∈ ps, p.OkLazy) :
    ∀ f, f > (renderStar3 ps).length → (rewriteBraceLazy segRe f (renderStar3 ps)).1 = reBody ps :=
  fun f hf => congrArg Prod.fst (rbl_render segRe ps hok hlz f hf)

/-- `key_get3` escapes `{` after the rewriting, which by then has left none -/
theorem escapeBrace_reBodyR (ps : List PSeg) (hok : ∀ p ∈ ps, p.Ok) :
    escapeBrace (reBodyR capLazyRe ps) = reBodyR capLazyRe ps :=
  -- `escapeBrace` is a rewriting without fuel; with `capLazyRe` as the token of every named segment and as its own
  -- replacement, `scan_render` arrives at the text it starts from
  congrArg Prod.fst <| scan_render (R := fun _ s => (escapeBrace s, ())) (tok := fun _ => capLazyRe) (nm := fun _ _ => ())
    (fun _ c t hc => by rw [escapeBrace.eq_2 c t hc]) (fun _ => rfl) (by decide) (by simp [capLazyRe_eq]) ps
    (fun s hs c hc => litChar_ne_brace (hok _ hs c hc)) (fun _ _ _ X _ => by rw [capLazyRe_eq]; rfl) _ (Nat.lt_succ_self _)

/-! ### compilation -/

/-- `toItems` refuses an atom followed by one of these -/
def quantChar (d : Char) : Bool := d = '?' || d = '*' || d = '+' || d = '{'

/-- `X` does not begin with a `quantChar`, so the atom written before `X` compiles on its own -/
def SafeHead (X : Str) : Prop := X.head?.any quantChar = false

/-- compiled form, with the item `g` for a named segment -/
def itemsG (g : Item) : List PSeg → List Item
  | [] => []
  | .lit s :: ps => .ch '/' :: (s.map Item.ch ++ itemsG g ps)
  | .named _ :: ps => .ch '/' :: g :: itemsG g ps
  | .rest :: ps => .ch '/' :: .dotStar :: itemsG g ps

abbrev itemsOf : List PSeg → List Item := itemsG (.seg false false)
/-- with capturing groups (`lzy`: the lazy group of keyGet3) -/
abbrev itemsOfC (lzy : Bool) : List PSeg → List Item := itemsG (.seg true lzy)

theorem toItems_nil (f : Nat) : toItems (f + 1) [] = some [] := rfl

theorem toItems_ch (f : Nat) (c : Char) (t : Str) (hc : isMeta c = false) : toItems (f + 2) (c :: t) =
    if t.head?.any quantChar then none else (toItems (f + 1) t).map (Item.ch c :: ·) := by
  -- `f + 2`: on an empty `t` the arm answers `some [_]` without the call on `t`, which must therefore have fuel left
  -- `unfold`, not `rw [toItems]`: deriving the equation lemmas of the nine overlapping cases runs out of heartbeats
  conv => lhs; unfold toItems
  split
  next h => cases h
  next h _ => cases h
  case h_9 h1 h2 =>
    cases h1; cases h2
    rw [if_neg (by simp [hc])]
    cases t <;> rfl
  -- the earlier cases of `toItems` begin with a metacharacter
  all_goals (rename_i h; cases h; exact absurd hc (by decide +kernel))

theorem toItems_seg (f : Nat) (t : Str) : toItems (f + 2) ('[' :: '^' :: '/' :: ']' :: '+' :: t) =
    if t.head?.any quantChar then none else (toItems (f + 1) t).map (Item.seg false false :: ·) := by
  cases t <;> rfl

/-- fuel bookkeeping for one token, shared by every `compile_*` below -/
theorem compile_step {tok X : Str} {g : Item} {I : List Item} (htok : tok ≠ [])
    (h : ∀ f, toItems (f + 2) (tok ++ X) = (toItems (f + 1) X).map (g :: ·))
    (hX : ∀ f, f > X.length → toItems f X = some I) :
    ∀ f, f > (tok ++ X).length → toItems f (tok ++ X) = some (g :: I)
  | 0, hf => absurd hf (Nat.not_lt_zero _)
  | 1, hf => absurd (fuel_rest htok hf) (Nat.not_lt_zero _)
  | f + 2, hf => by rw [h, hX _ (fuel_rest htok hf)]; rfl

theorem compile_ch (c : Char) (hc : isMeta c = false) (X : Str) (I : List Item)
    (hX : ∀ f, f > X.length → toItems f X = some I) (hXh : SafeHead X) :
    ∀ f, f > (c :: X).length → toItems f (c :: X) = some (Item.ch c :: I) :=
  compile_step (tok := [c]) (by simp) (fun f => (toItems_ch f c X hc).trans (if_neg (Bool.eq_false_iff.mp hXh))) hX

theorem compile_dotStar (X : Str) (I : List Item) (hX : ∀ f, f > X.length → toItems f X = some I) :
    ∀ f, f > ('.' :: '*' :: X).length → toItems f ('.' :: '*' :: X) = some (Item.dotStar :: I) :=
  compile_step (tok := ['.', '*']) (by simp) (fun _ => rfl) hX

theorem compile_seg (X : Str) (I : List Item) (hX : ∀ f, f > X.length → toItems f X = some I) (hXh : SafeHead X) :
    ∀ f, f > (segRe ++ X).length → toItems f (segRe ++ X) = some (Item.seg false false :: I) :=
  compile_step (by simp [segRe_eq])
    (fun f => by rw [segRe_eq]; exact (toItems_seg f X).trans (if_neg (Bool.eq_false_iff.mp hXh))) hX

theorem compile_cap (X : Str) (I : List Item) (hX : ∀ f, f > X.length → toItems f X = some I) :
    ∀ f, f > (capRe ++ X).length → toItems f (capRe ++ X) = some (Item.seg true false :: I) :=
  compile_step (by simp [capRe_eq]) (fun f => by rw [capRe_eq]; rfl) hX

theorem compile_capLazy (X : Str) (I : List Item) (hX : ∀ f, f > X.length → toItems f X = some I) :
    ∀ f, f > (capLazyRe ++ X).length → toItems f (capLazyRe ++ X) = some (Item.seg true true :: I) :=
  compile_step (by simp [capLazyRe_eq]) (fun f => by rw [capLazyRe_eq]; rfl) hX

theorem litChar_not_quant {c : Char} (h : LitChar c) : quantChar c = false := by
  refine Bool.eq_false_iff.mpr fun hq => ?_
  simp only [quantChar, Bool.or_eq_true, decide_eq_true_eq] at hq
  rcases hq with ((rfl | rfl) | rfl) | rfl <;> cases h.1

theorem safeHead_lit (s : Str) (hs : ∀ c ∈ s, LitChar c) (X : Str) (hX : SafeHead X) : SafeHead (s ++ X) := by
  cases s with
  | nil => exact hX
  | cons c s => exact litChar_not_quant (hs c List.mem_cons_self)

theorem compile_lit (s : Str) (hs : ∀ c ∈ s, LitChar c) (X : Str) (I : List Item)
    (hX : ∀ f, f > X.length → toItems f X = some I) (hXh : SafeHead X) :
    ∀ f, f > (s ++ X).length → toItems f (s ++ X) = some (s.map Item.ch ++ I) := by
  induction s with
  | nil => exact hX
  | cons c s ih =>
    have hs' : ∀ c ∈ s, LitChar c := fun x hx => hs x (List.mem_cons_of_mem _ hx)
    exact compile_ch c (hs c List.mem_cons_self).1 (s ++ X) (s.map Item.ch ++ I) (ih hs') (safeHead_lit s hs' X hXh)

theorem reBodyR_safeHead (repl : Str) (ps : List PSeg) : SafeHead (reBodyR repl ps) := by
  cases ps with
  | nil => rfl
  | cons p ps => cases p <;> rfl

/-- whatever text `repl` stands for a named segment, provided it compiles to one item `g` -/
theorem compile_reBodyR {repl : Str} {g : Item} (hs : ∀ X, SafeHead (repl ++ X))
    (hg : ∀ X I, (∀ f, f > X.length → toItems f X = some I) → SafeHead X →
      ∀ f, f > (repl ++ X).length → toItems f (repl ++ X) = some (g :: I))
    (ps : List PSeg) (hok : ∀ p ∈ ps, p.Ok) :
    ∀ f, f > (reBodyR repl ps).length → toItems f (reBodyR repl ps) = some (itemsG g ps) := by
  induction ps with
  | nil => exact fun
    | 0, hf => absurd hf (Nat.lt_irrefl 0)
    | f + 1, _ => toItems_nil f
  | cons p ps ih =>
    have ih' := ih (fun q hq => hok q (List.mem_cons_of_mem _ hq))
    have hp := hok p List.mem_cons_self
    have hh := reBodyR_safeHead repl ps
    have slash : isMeta '/' = false := by decide +kernel
    cases p with
    | lit s => exact compile_ch '/' slash _ _ (compile_lit s hp _ _ ih' hh) (safeHead_lit s hp _ hh)
    | named n => exact compile_ch '/' slash _ _ (hg _ _ ih' hh) (hs _)
    | rest => exact compile_ch '/' slash _ _ (compile_dotStar _ _ ih') rfl

theorem compile_reBody (ps : List PSeg) (hok : ∀ p ∈ ps, p.Ok) :
    ∀ f, f > (reBody ps).length → toItems f (reBody ps) = some (itemsOf ps) :=
  compile_reBodyR (fun _ => by rw [segRe_eq]; rfl) compile_seg ps hok

theorem compile_reBodyCap (ps : List PSeg) (hok : ∀ p ∈ ps, p.Ok) :
    ∀ f, f > (reBodyR capRe ps).length → toItems f (reBodyR capRe ps) = some (itemsOfC false ps) :=
  compile_reBodyR (fun _ => by rw [capRe_eq]; rfl) (fun X I hX _ => compile_cap X I hX) ps hok

theorem compile_reBodyCapLazy (ps : List PSeg) (hok : ∀ p ∈ ps, p.Ok) :
    ∀ f, f > (reBodyR capLazyRe ps).length → toItems f (reBodyR capLazyRe ps) = some (itemsOfC true ps) :=
  compile_reBodyR (fun _ => by rw [capLazyRe_eq]; rfl) (fun X I hX _ => compile_capLazy X I hX) ps hok

end Casbin
