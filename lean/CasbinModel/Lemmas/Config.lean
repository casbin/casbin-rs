import CasbinModel.Config
import CasbinModel.Lemmas.Csv
/-!
`Config::parse` one line at a time (C16): `parseLines` on a blank or comment line, a header, an entry; one round of the
continuation loop; `remove_comment` on a value with something behind it.

Fuel: `parseLines` spends one unit per blank line, comment, header or entry, for an entry one unit however many lines
it spans: the lines that continue it are consumed by `contLoop`, which has fuel of its own, one unit per line, and
starts with `rest.length + 1`.  Without fuel `parseLines` answers `some data` and `contLoop` hands back the line so far.
-/

/-! Words of C16's statements, hence under its name. -/
namespace Casbin.C16

def AllWs (ws : Str) : Prop := ∀ c ∈ ws, isWs c = true
instance (ws : Str) : Decidable (AllWs ws) := by unfold AllWs; infer_instance

def IsJunk (l : Str) : Prop := (trim l).isEmpty = true ∨ isComment (trim l) = true

/-- a piece of a continued value: tight, and opening no comment or header -/
def PieceOk (v : Str) : Prop :=
  v ≠ [] ∧ (∀ c, v.head? = some c → isWs c = false) ∧ (∀ c, v.getLast? = some c → isWs c = false) ∧
  (∀ c, v.head? = some c → c ≠ '#' ∧ c ≠ ';' ∧ c ≠ '[')

end Casbin.C16

namespace Casbin
open C16

theorem parseLines_junk {l : Str} (h : IsJunk l) (f : Nat) (rest : List Str) (sec : Str) (d : CfgData) :
    parseLines (f + 1) (l :: rest) sec d = parseLines f rest sec d :=
  if_pos (Bool.or_eq_true_iff.mpr h)

theorem parseLines_header {ws1 ws2 : Str} (h1 : AllWs ws1) (h2 : AllWs ws2) (name : Str) (f : Nat) (rest : List Str)
    (sec : Str) (d : CfgData) :
    parseLines (f + 1) ((ws1 ++ ('[' :: name ++ [']']) ++ ws2) :: rest) sec d = parseLines f rest name d := by
  have e : trim (ws1 ++ ('[' :: name ++ [']']) ++ ws2) = '[' :: name ++ [']'] :=
    (tight_wrap (by decide) (by decide) name).trim_pad h1 h2
  have hl : ('[' :: (name ++ [']'])).getLast? = some ']' := List.getLast?_concat (l := '[' :: name)
  -- not blank, not a comment, but a header
  refine (if_neg ?_).trans ((if_pos ?_).trans ?_) <;> rw [e] <;> simp [isComment, isSectionLine, sectionName, hl]

/-- a line that begins with `v` (non-empty, opening no comment or header): `parseLines` and `contLoop` take their last
branch -/
theorem ordinary_of_prefix {v line : Str} (hne : v ≠ []) (hh : ∀ c, v.head? = some c → c ≠ '#' ∧ c ≠ ';' ∧ c ≠ '[')
    (hp : v <+: line) : (line.isEmpty || isComment line) = false ∧ isSectionLine line = false := by
  obtain ⟨tail, rfl⟩ := hp
  obtain ⟨c, t, rfl⟩ := List.exists_cons_of_ne_nil hne
  obtain ⟨h1, h2, h3⟩ := hh c rfl
  simp [isComment, isSectionLine, h1, h2, h3]

/-! `k ws2 = ws3 v`: an entry without its outer blanks. -/

theorem tight_core {k v : Str} (hk : Tight k) (hv : Tight v) (ws2 ws3 : Str) : Tight (k ++ ws2 ++ ['='] ++ ws3 ++ v) := by
  rw [List.append_assoc k, List.append_assoc k]
  exact hk.append hv (ws2 ++ ['='] ++ ws3)

theorem key_prefix (k ws2 ws3 v : Str) : k <+: k ++ ws2 ++ ['='] ++ ws3 ++ v := by
  simp only [List.append_assoc, List.prefix_append]

/-- blanks around the key, the `=` and the value do not matter: `splitn(2, '=')` cuts behind the key's blanks, the two
trims give back key and value -/
theorem entry_spacing {k v ws2 ws3 : Str} (h2 : AllWs ws2) (h3 : AllWs ws3) (hk : Tight k) (hke : '=' ∉ k) (hv : Tight v) :
    splitEq (k ++ ws2 ++ ['='] ++ ws3 ++ v) = some (k ++ ws2, ws3 ++ v) ∧ trim (k ++ ws2) = k ∧ trim (ws3 ++ v) = v := by
  have e := span_stop_cons (p := (· ≠ '=')) (List.forall_mem_append.mpr ⟨decide_ne_of_not_mem hke, decide_ne_of_ws h2 rfl⟩)
    (c := '=') (by decide) (ws3 ++ v)
  refine ⟨?_, hk.trim_pad (ws1 := []) (List.forall_mem_nil _) h2,
    List.append_nil (ws3 ++ v) ▸ hv.trim_pad h3 (List.forall_mem_nil _)⟩
  rw [List.append_assoc _ ws3, List.append_assoc _ ['='], List.singleton_append, splitEq,
    if_pos (List.mem_append_right _ List.mem_cons_self), e.1, e.2]
  rfl

/-- One entry, over however many lines: `line` is its first line, trimmed; `hc`: the continuation loop joins it with
the lines that follow into `k ws2 = ws3 v`, leaves `rest'`, opens no section; `hvl`: `trim_end_matches` strips nothing. -/
theorem parseLines_entry {l line : Str} {rest rest' : List Str} {k ws2 ws3 v : Str} (f : Nat) (sec : Str) (d : CfgData)
    (h2 : AllWs ws2) (h3 : AllWs ws3) (hk : Tight k) (hke : '=' ∉ k)
    (hkh : ∀ c, k.head? = some c → c ≠ '#' ∧ c ≠ ';' ∧ c ≠ '[') (hv : Tight v) (hvl : v.getLast? ≠ some '\\')
    (hl : trim l = line) (hp : k <+: line)
    (hc : contLoop (rest.length + 1) line rest [] = (k ++ ws2 ++ ['='] ++ ws3 ++ v, rest', [])) :
    parseLines (f + 1) (l :: rest) sec d = parseLines f rest' sec (addConfig d sec k v) := by
  subst hl
  obtain ⟨e1, e2⟩ := ordinary_of_prefix hk.1 hkh hp
  obtain ⟨s1, s2, s3⟩ := entry_spacing h2 h3 hk hke hv
  have ht : trimEndWsBackslash (k ++ ws2 ++ ['='] ++ ws3 ++ v) = k ++ ws2 ++ ['='] ++ ws3 ++ v :=
    dropEnd_of_last fun c hc => by
      rw [getLast?_append_ne _ _ hv.1] at hc
      have : c ≠ '\\' := fun h => hvl (h ▸ hc)
      simp [hv.2.2 c hc, this]
  -- not blank, no comment, no header: the entry branch
  refine (if_neg (ne_true_of_eq_false e1)).trans ((if_neg (ne_true_of_eq_false e2)).trans ?_)
  simp only [hc, ht, s1, s2, s3, List.isEmpty_nil, if_true]

/-! ### the continuation loop -/

theorem contLoop_stop {line : Str} (h : line.getLast? ≠ some '\\') (fuel : Nat) (rest : List Str) (ns : Str) :
    contLoop fuel line rest ns = (line, rest, ns) := by
  cases fuel with
  | zero => rfl
  | succ f => exact if_pos h

theorem contLoop_backslash (f : Nat) (a nxt : Str) (rest : List Str) (ns : Str) :
    contLoop (f + 1) (a ++ ['\\']) (nxt :: rest) ns =
      if (trim nxt).isEmpty || isComment (trim nxt) then contLoop f (trimR a) rest ns
      else if isSectionLine (trim nxt) then contLoop f (trimR a) rest (sectionName (trim nxt))
      else contLoop f (trimR a ++ trim nxt) rest ns := by
  -- the line ends in a backslash: the loop goes on, with `a`
  refine (if_neg (by rw [List.getLast?_concat]; exact fun h => h rfl)).trans ?_
  show (if _ then contLoop f (trimR (a ++ ['\\']).dropLast) rest ns else _) = _
  rw [List.dropLast_concat]

theorem tight_backslash : Tight ['\\'] := ⟨List.cons_ne_nil _ _, by decide, by decide⟩

theorem C16.PieceOk.tight {v : Str} (h : PieceOk v) : Tight v := ⟨h.1, h.2.1, h.2.2.1⟩

/-- a middle line of a continued value, as the round that reads it sees it -/
theorem C16.PieceOk.continued {v : Str} (h : PieceOk v) (ws : Str) : PieceOk (v ++ ws ++ ['\\']) := by
  have t := h.tight.append tight_backslash ws
  obtain ⟨x, v, rfl⟩ := List.exists_cons_of_ne_nil h.1
  exact ⟨t.1, t.2.1, t.2.2, h.2.2.2⟩

/-- one round: `acc wsA \` and the line `wsC p wsD` give `acc ++ p`; of `acc` (empty or not) only the end matters -/
theorem contLoop_piece {acc wsA wsC p wsD : Str} (hacc : ∀ c, acc.getLast? = some c → isWs c = false) (hA : AllWs wsA)
    (hC : AllWs wsC) (hD : AllWs wsD) (hp : PieceOk p) (f : Nat) (rest : List Str) (ns : Str) :
    contLoop (f + 1) (acc ++ wsA ++ ['\\']) ((wsC ++ p ++ wsD) :: rest) ns = contLoop f (acc ++ p) rest ns := by
  obtain ⟨e1, e2⟩ := ordinary_of_prefix hp.1 hp.2.2.2 (List.prefix_refl p)
  rw [contLoop_backslash, hp.tight.trim_pad hC hD, trimR_append_ws hA, trimR_of_last hacc, e1, e2]
  rfl

/-! ### `remove_comment` -/

theorem removeComment_tail {v ws b : Str} (hv : ∀ x ∈ v, x ≠ '#') (hws : AllWs ws)
    (hb : ∀ c, b.head? = some c → c = '#') : removeComment (v ++ ws ++ b) = removeComment v := by
  have hv' : ∀ x ∈ v, decide (x ≠ '#') = true := fun x hx => decide_eq_true (hv x hx)
  unfold removeComment
  -- left: the cut falls before `b`, then the blanks are trimmed; right: nothing is cut
  rw [(span_stop (List.forall_mem_append.mpr ⟨hv', decide_ne_of_ws hws rfl⟩) fun c hc => by rw [hb c hc]; rfl).1,
    trimR_append_ws hws, ← List.append_nil v, (span_stop (b := []) hv' fun _ h => nomatch h).1, List.append_nil]

theorem addDef_congr {a b : Str} (h : removeComment a = removeComment b) (sec key : Str) :
    addDef sec key a = addDef sec key b := by
  unfold addDef; rw [h]

end Casbin
