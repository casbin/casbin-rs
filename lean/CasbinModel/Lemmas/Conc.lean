import CasbinModel.Conc
/-! The lock protocol of `Conc.lean`.  Three facts about one thread's step (`disc_step`, `step_length`, `mem_held_step`)
and three readings of `enabled` (`enabled_acq`, `blocked`, `enabled_next`) carry progress (under the lock order whoever
blocks a waiter waits itself, for a higher lock), termination (a step takes an action off a program) and mutual
exclusion. -/
namespace Casbin.Conc

/-- every thread's remaining program obeys `disc` from the guards it holds -/
def Disc (nL : Nat) (s : State) : Prop := ∀ th ∈ s, disc nL th.held th.prog = true

/-- a reader is refused (beyond a held write guard) only because some other thread waits to write -/
def PolOk (pol : Policy) : Prop :=
  ∀ s t l, pol s t l = true → ∃ t' th', t' ≠ t ∧ s[t']? = some th' ∧ th'.waitsW l = true

theorem polOk_eager : PolOk eagerPol := by intro s t l h; cases h

theorem polOk_fair : PolOk fairPol := by
  intro s t l h
  obtain ⟨i, _, hi⟩ := List.any_eq_true.mp h
  simp only [Bool.and_eq_true, bne_iff_ne, ne_eq] at hi
  cases hs : s[i]? with
  | none => rw [hs] at hi; cases hi.2
  | some th => rw [hs] at hi; exact ⟨i, th, hi.1, hs, hi.2⟩

variable {pol : Policy} {s : State} {t l nL : Nat} {th : Thread} {m : Mode} {a : Act}

theorem holdsW_iff : th.holdsW l = true ↔ (l, Mode.W) ∈ th.held :=
  List.contains_iff_mem

theorem holds_iff : th.holds l = true ↔ ∃ m, (l, m) ∈ th.held := by
  simp only [Thread.holds, List.any_eq_true, beq_iff_eq]
  exact ⟨fun ⟨x, hx, h⟩ => ⟨x.2, h ▸ hx⟩, fun ⟨m, hm⟩ => ⟨_, hm, rfl⟩⟩

theorem next_of_prog {p : List Act} (h : th.prog = a :: p) : th.next = some a :=
  congrArg List.head? h

theorem disc_step (nL : Nat) (th : Thread) (h : disc nL th.held th.prog = true) :
    disc nL th.step.held th.step.prog = true := by
  obtain ⟨held, prog⟩ := th
  rcases prog with _ | ⟨_ | _ | _, p⟩
  · exact h
  · simp only [disc, Bool.and_eq_true] at h; exact h.2
  · simp only [disc, Bool.and_eq_true] at h; exact h.2
  · exact h

theorem step_length (h : th.next = some a) : th.step.prog.length + 1 = th.prog.length := by
  obtain ⟨held, prog⟩ := th
  rcases prog with _ | ⟨_ | _ | _, p⟩
  · cases h
  all_goals rfl

theorem mem_held_step {x : Nat × Mode} (h : x ∈ th.step.held) :
    x ∈ th.held ∨ th.next = some (.acq x.2 x.1) := by
  obtain ⟨held, prog⟩ := th
  rcases prog with _ | ⟨_ | _ | _, p⟩
  · exact .inl h
  · rcases List.mem_cons.mp h with rfl | h
    · exact .inr rfl
    · exact .inl h
  · exact .inl (List.mem_of_mem_erase h)
  · exact .inl h

theorem disc_acq {held : List (Nat × Mode)} {p : List Act}
    (h : disc nL held (.acq m l :: p) = true) : l < nL ∧ ∀ x ∈ held, x.1 < l := by
  simp only [disc, Bool.and_eq_true, decide_eq_true_eq, List.all_eq_true] at h
  exact h.1

theorem enabled_acq {th' : Thread}
    (hs : s[t]? = some th) (hn : th.next = some (.acq m l)) (he : enabled pol s t = true) (hm : th' ∈ s) :
    (l, Mode.W) ∉ th'.held ∧ (m = .W → ∀ m', (l, m') ∉ th'.held) := by
  unfold enabled at he
  rw [hs] at he
  simp only [hn] at he
  cases m with
  | R =>
    simp only [Bool.and_eq_true, Bool.not_eq_true', List.any_eq_false] at he
    exact ⟨fun h => he.1 th' hm (holdsW_iff.mpr h), nofun⟩
  | W =>
    simp only [Bool.not_eq_true', List.any_eq_false] at he
    exact ⟨fun h => he th' hm (holds_iff.mpr ⟨_, h⟩), fun _ m' h => he th' hm (holds_iff.mpr ⟨m', h⟩)⟩

theorem blocked
    (hs : s[t]? = some th) (hn : th.next = some a) (he : enabled pol s t = false) :
    ∃ m l, a = .acq m l ∧ ((∃ th' ∈ s, ∃ m', (l, m') ∈ th'.held) ∨ (m = .R ∧ pol s t l = true)) := by
  unfold enabled at he
  rw [hs] at he
  simp only [hn] at he
  rcases a with ⟨_ | _, l⟩ | _ | _
  · refine ⟨.R, l, rfl, ?_⟩
    simp only [Bool.and_eq_false_iff, Bool.not_eq_false', List.any_eq_true] at he
    rcases he with ⟨th', hm, hh⟩ | he
    · exact .inl ⟨th', hm, .W, holdsW_iff.mp hh⟩
    · exact .inr ⟨rfl, he⟩
  · simp only [Bool.not_eq_false', List.any_eq_true] at he
    obtain ⟨th', hm, hh⟩ := he
    exact ⟨.W, l, rfl, .inl ⟨th', hm, holds_iff.mp hh⟩⟩
  · cases he
  · cases he

theorem enabled_next (h : enabled pol s t = true) :
    ∃ th a, s[t]? = some th ∧ th.next = some a := by
  unfold enabled at h
  cases hs : s[t]? with
  | none => rw [hs] at h; cases h
  | some th =>
    cases hn : th.next with
    | none => rw [hs] at h; simp only [hn] at h; cases h
    | some a => exact ⟨th, a, rfl, hn⟩

theorem of_stuck (h : stuck pol s = true) :
    allDone s = false ∧ ∀ t, enabled pol s t = false := by
  simp only [stuck, Bool.and_eq_true, Bool.not_eq_true', List.all_eq_true, List.mem_range] at h
  refine ⟨h.1, fun t => ?_⟩
  cases he : enabled pol s t with
  | false => rfl
  | true =>
    obtain ⟨_, _, hs, _⟩ := enabled_next he
    exact he.symm.trans (h.2 t (List.getElem?_eq_some_iff.mp hs).1)

/-- Induction on the distance `k` of `l` from the top lock.  A holder of `l` has more to run (it must release), so it
waits, for a strictly higher lock: nobody holds `l`.  A waiter for `l` is then a reader the policy refuses; `PolOk`
yields a thread waiting to *write* `l`, which is no reader. -/
theorem no_waiter (hpol : PolOk pol) (hd : Disc nL s)
    (hstuck : ∀ t, enabled pol s t = false) (k : Nat) :
    ∀ (l t : Nat) (th : Thread) (m : Mode), nL ≤ l + k → s[t]? = some th → th.next = some (.acq m l) → False := by
  induction k with
  | zero =>
    intro l t th m hk hs hn
    obtain ⟨p, hp⟩ := List.head?_eq_some_iff.mp hn
    exact Nat.lt_irrefl _ (Nat.lt_of_lt_of_le (disc_acq (hp ▸ hd th (List.mem_of_getElem? hs))).1 hk)
  | succ k ih =>
    intro l t th m hk hs hn
    have holder : ∀ th1 ∈ s, ∀ m0, (l, m0) ∈ th1.held → False := by
      intro th1 hm m0 hx
      obtain ⟨t1, ht1⟩ := List.getElem?_of_mem hm
      have hd1 := hd th1 hm
      cases hp1 : th1.prog with
      | nil =>
        rw [hp1] at hd1
        rw [List.isEmpty_iff.mp hd1] at hx; cases hx
      | cons a p1 =>
        obtain ⟨m1, l1, rfl, _⟩ := blocked ht1 (next_of_prog hp1) (hstuck t1)
        have hl : l < l1 := (disc_acq (hp1 ▸ hd1)).2 _ hx
        exact ih l1 t1 th1 m1 (by omega) ht1 (next_of_prog hp1)
    have waiter : ∀ (t : Nat) (th : Thread) (m : Mode), s[t]? = some th → th.next = some (.acq m l) →
        m = .R ∧ pol s t l = true := by
      intro t th m hs hn
      obtain ⟨_, _, h, hb⟩ := blocked hs hn (hstuck t)
      cases h
      exact hb.elim (fun ⟨th1, hm, m0, hx⟩ => (holder th1 hm m0 hx).elim) id
    obtain ⟨t', th', _, hs', hw⟩ := hpol s t l (waiter t th m hs hn).2
    cases (waiter t' th' .W hs' (eq_of_beq hw)).1

theorem exists_enabled (pol : Policy) (hpol : PolOk pol) (nL : Nat) (s : State) (hd : Disc nL s)
    (hnd : allDone s = false) : ∃ t, enabled pol s t = true := by
  apply Classical.byContradiction
  intro hno
  have hstuck : ∀ t, enabled pol s t = false := fun t => Bool.eq_false_iff.mpr fun h => hno ⟨t, h⟩
  obtain ⟨th, hm, hne⟩ := List.all_eq_false.mp hnd
  obtain ⟨t, ht⟩ := List.getElem?_of_mem hm
  cases hp : th.prog with
  | nil => rw [hp] at hne; exact hne rfl
  | cons a p =>
    obtain ⟨m, l, rfl, _⟩ := blocked ht (next_of_prog hp) (hstuck t)
    exact no_waiter hpol hd hstuck nL l t th m (Nat.le_add_left nL l) ht (next_of_prog hp)

/-- `s'` is reached from `s` by exactly `n` enabled steps (the last step is the outermost constructor) -/
inductive ReachN (pol : Policy) : Nat → State → State → Prop
  | refl (s : State) : ReachN pol 0 s s
  | step {n : Nat} {s s' : State} (t : Nat) : ReachN pol n s s' → enabled pol s' t = true → ReachN pol (n + 1) s (stepT s' t)

theorem stepT_eq (hs : s[t]? = some th) : stepT s t = s.set t th.step := by
  unfold stepT; rw [hs]

theorem disc_stepT (nL : Nat) (s : State) (t : Nat) (h : Disc nL s) : Disc nL (stepT s t) := by
  cases hs : s[t]? with
  | none => unfold stepT; rw [hs]; exact h
  | some th =>
    rw [stepT_eq hs]
    intro th' hm
    rcases List.mem_or_eq_of_mem_set hm with h1 | rfl
    · exact h th' h1
    · exact disc_step nL th (h th (List.mem_of_getElem? hs))

theorem disc_reach {n : Nat} {s' : State} (h : Disc nL s) (r : ReachN pol n s s') : Disc nL s' := by
  induction r with
  | refl => exact h
  | step t _ _ ih => exact disc_stepT nL _ t (ih h)

theorem disc_init {progs : List (List Act)} (hd : ∀ p ∈ progs, disc nL [] p = true) :
    Disc nL (initState progs) := by
  intro th hm
  obtain ⟨p, hp, rfl⟩ := List.mem_map.mp hm
  exact hd p hp

/-- actions still to run, summed over the threads -/
def work (s : State) : Nat := (s.map (·.prog.length)).sum

theorem work_set {th' : Thread} (hs : s[t]? = some th)
    (hl : th'.prog.length + 1 = th.prog.length) : work (s.set t th') + 1 = work s := by
  induction s generalizing t with
  | nil => cases hs
  | cons x xs ih =>
    cases t with
    | zero =>
      cases hs
      simp only [List.set_cons_zero, work, List.map_cons, List.sum_cons]
      rw [← hl, Nat.add_right_comm]
    | succ t =>
      simp only [List.set_cons_succ, work, List.map_cons, List.sum_cons]
      exact congrArg (x.prog.length + ·) (ih (t := t) hs)

theorem work_step (h : enabled pol s t = true) : work (stepT s t) + 1 = work s := by
  obtain ⟨th, a, hs, hn⟩ := enabled_next h
  rw [stepT_eq hs]
  exact work_set hs (step_length hn)

theorem reach_bounded {n : Nat} {s' : State} (r : ReachN pol n s s') : n + work s' = work s := by
  induction r with
  | refl => exact Nat.zero_add _
  | step t _ he ih => rw [← ih, ← work_step he, Nat.add_right_comm]; rfl

/-- a write guard on `l` excludes every guard on `l` held by another thread -/
def Excl (s : State) : Prop :=
  ∀ (t t' : Nat) (th th' : Thread) (l : Nat), s[t]? = some th → s[t']? = some th' →
    th.holdsW l = true → th'.holds l = true → t = t'

theorem held_stepT {i : Nat} {thi : Thread} {x : Nat × Mode} (hs : s[t]? = some th)
    (hi : (stepT s t)[i]? = some thi) (hx : x ∈ thi.held) :
    (∃ th0, s[i]? = some th0 ∧ x ∈ th0.held) ∨ (i = t ∧ th.next = some (.acq x.2 x.1)) := by
  rw [stepT_eq hs] at hi
  by_cases hti : t = i
  · subst hti
    rw [List.getElem?_set_self (List.getElem?_eq_some_iff.mp hs).1] at hi
    cases hi
    exact (mem_held_step hx).imp (fun h => ⟨th, hs, h⟩) (fun h => ⟨rfl, h⟩)
  · rw [List.getElem?_set_ne hti] at hi; exact .inl ⟨thi, hi, hx⟩

theorem excl_stepT (hx : Excl s) (he : enabled pol s t = true) :
    Excl (stepT s t) := by
  intro i j thi thj l hi hj hwi hhj
  obtain ⟨th, _, hs, _⟩ := enabled_next he
  obtain ⟨m, hhj⟩ := holds_iff.mp hhj
  rcases held_stepT hs hi (holdsW_iff.mp hwi) with ⟨thi0, hi0, hwi0⟩ | ⟨rfl, hn⟩
  · rcases held_stepT hs hj hhj with ⟨thj0, hj0, hhj0⟩ | ⟨rfl, hn⟩
    · exact hx i j thi0 thj0 l hi0 hj0 (holdsW_iff.mpr hwi0) (holds_iff.mpr ⟨m, hhj0⟩)
    · -- `j` takes a guard on `l` while `i` holds a write guard
      exact ((enabled_acq hs hn he (List.mem_of_getElem? hi0)).1 hwi0).elim
  · rcases held_stepT hs hj hhj with ⟨thj0, hj0, hhj0⟩ | ⟨rfl, _⟩
    · -- `i` takes a write guard on `l` while `j` holds a guard
      exact ((enabled_acq hs hn he (List.mem_of_getElem? hj0)).2 rfl m hhj0).elim
    · rfl

theorem excl_reach {n : Nat} {s' : State} (h : Excl s) (r : ReachN pol n s s') : Excl s' := by
  induction r with
  | refl => exact h
  | step t _ he ih => exact excl_stepT (ih h) he

theorem excl_init (progs : List (List Act)) : Excl (initState progs) := by
  intro t t' th th' l ht _ hw _
  obtain ⟨p, _, rfl⟩ := List.mem_map.mp (List.mem_of_getElem? ht)
  cases holdsW_iff.mp hw

theorem exploreGo_sound {R : State → Prop}
    (hR : ∀ s t, R s → enabled pol s t = true → R (stepT s t)) (fuel : Nat) (todo seen : List State) (n : Nat)
    (s : State) : (∀ x ∈ todo, R x) → (exploreGo pol fuel todo seen n).1 = some s → R s ∧ stuck pol s = true := by
  -- the branches of `exploreGo`: out of fuel / nothing left / already seen / stuck: found / expanded
  fun_induction exploreGo pol fuel todo seen n with
  | case1 => intro _ h; cases h
  | case2 => intro _ h; cases h
  | case3 fuel x rest seen n hc ih => exact fun hall => ih fun y hy => hall y (List.mem_cons_of_mem _ hy)
  | case4 fuel x rest seen n hc hs => intro hall h; cases h; exact ⟨hall _ List.mem_cons_self, hs⟩
  | case5 fuel x rest seen n hc hs succ ih =>
    refine fun hall => ih fun y hy => ?_
    rcases List.mem_append.mp hy with hy | hy
    · obtain ⟨t, _, ht⟩ := List.mem_filterMap.mp hy
      obtain ⟨he, ht⟩ := Option.ite_none_right_eq_some.mp ht
      exact Option.some.inj ht ▸ hR x t (hall x List.mem_cons_self) he
    · exact hall y (List.mem_cons_of_mem _ hy)

theorem explore_sound {fuel n : Nat} {todo : List State} (h : (explore pol fuel todo n).1 = some s) :
    (∃ s0 ∈ todo, ∃ k, ReachN pol k s0 s) ∧ stuck pol s = true :=
  exploreGo_sound (R := fun s => ∃ s0 ∈ todo, ∃ k, ReachN pol k s0 s)
    (fun _ t ⟨s0, h0, k, r⟩ he => ⟨s0, h0, k + 1, .step t r he⟩) fuel _ _ n s
    (fun x hx => ⟨x, hx, 0, .refl x⟩) h

end Casbin.Conc
