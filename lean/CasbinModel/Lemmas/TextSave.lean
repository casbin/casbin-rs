import CasbinModel.Lemmas.Csv
import CasbinModel.Adapter
/-! What the file / string adapter reads back from the text its own `save_policy` wrote (C09): a written column is one
the column regex takes whole (`GoodCol`); a written line holds no line break and gives back its record. -/
namespace Casbin

/-- a column as `save_policy` writes it: optional blanks, the rendered field -/
def rawCol (ws : List Char) (f : List Char) : List Char := ws ++ renderField f

theorem tight_renderField {f : List Char} (hf : SafeField f) : Tight (renderField f) := by
  unfold renderField
  split
  · exact tight_wrap (by decide) (by decide) f
  · exact hf.tight

theorem goodCol_rawCol {ws f : List Char} (hws : ∀ c ∈ ws, isWs c = true) (hf : SafeField f) :
    GoodCol (rawCol ws f) := by
  rw [rawCol, renderField, ← List.append_nil (ws ++ _)]
  split
  · exact goodCol_quoted hws (List.forall_mem_nil _) hf.noQuote
  · exact goodCol_bare hws (List.forall_mem_nil _) hf ‹_›

theorem trim_rawCol {ws f : List Char} (hws : ∀ c ∈ ws, isWs c = true) (hf : SafeField f) :
    unquote (trim (rawCol ws f)) = f := by
  rw [rawCol, renderField, ← List.append_nil (ws ++ _)]
  split
  · exact unquote_trim_quoted hws (List.forall_mem_nil _)
  · exact unquote_trim_bare hws (List.forall_mem_nil _) hf

/-- `load_policy_line` of the file / string adapter on one line of text -/
def lineRecord (line : List Char) : Option (String × String × Rule) :=
  if line.isEmpty || line.head? = some '#' then none else
  match parseCsvLine line with
  | none => none
  | some toks =>
    match toks with
    | [] => none
    | key :: rule =>
      match key with
      | [] => none
      | c :: _ => some (String.singleton c, String.ofList key, rule.map String.ofList)

theorem records_text (a : AdapterSt) (hk : a.kind = .file ∨ a.kind = .string) :
    a.records = (splitLines a.text).filterMap lineRecord := by
  unfold AdapterSt.records
  rcases hk with hk | hk <;> rw [hk] <;> rfl

/-- a rule the text format carries -/
structure SafeRule (r : Rule) : Prop where
  ne : r ≠ []
  safe : ∀ f ∈ r, SafeField f.toList
  oneLine : ∀ f ∈ r, '\n' ∉ f.toList

/-- a policy type name the text format carries -/
structure SafeKey (k : String) : Prop where
  safe : SafeField k.toList
  noComma : ',' ∉ k.toList
  noHash : k.toList.head? ≠ some '#'
  oneLine : '\n' ∉ k.toList

theorem joinWith_no_nl (sep : List Char) (hsep : '\n' ∉ sep) (cols : List (List Char)) (h : ∀ c ∈ cols, '\n' ∉ c) :
    '\n' ∉ joinWith sep cols := by
  cases cols with
  | nil => exact List.not_mem_nil
  | cons x xs =>
    rw [joinWith_cons]
    simp only [List.mem_append, List.mem_flatMap, not_or, not_exists, not_and]
    exact ⟨h x List.mem_cons_self, fun y hy => ⟨hsep, h y (List.mem_cons_of_mem _ hy)⟩⟩

theorem renderField_no_nl (f : List Char) (h : '\n' ∉ f) : '\n' ∉ renderField f := by
  unfold renderField
  split <;> simp [h]

theorem renderLine_no_nl (sep : List Char) (hsep : '\n' ∉ sep) (k : String) (r : Rule) (hk : SafeKey k) (hr : SafeRule r) :
    '\n' ∉ renderLine sep k.toList (r.map String.toList) := by
  unfold renderLine
  simp only [List.mem_append, not_or]
  refine ⟨⟨hk.oneLine, by decide⟩, ?_⟩
  apply joinWith_no_nl sep hsep
  intro c hc
  simp only [List.mem_map] at hc
  obtain ⟨f, ⟨s, hs, rfl⟩, rfl⟩ := hc
  exact renderField_no_nl _ (hr.oneLine s hs)

/-- the record is filed under the first character of its policy type; `parse` is what `C09.parse_render` proves, a
hypothesis here so that this file does not depend on the property's -/
theorem lineRecord_render (sep : List Char) {k : String} {r : Rule}
    (parse : parseCsvLine (renderLine sep k.toList (r.map String.toList)) = some (k.toList :: r.map String.toList))
    (hk : SafeKey k) :
    lineRecord (renderLine sep k.toList (r.map String.toList)) = some (String.ofList (k.toList.take 1), k, r) := by
  obtain ⟨c, cs, hkc⟩ := List.exists_cons_of_ne_nil hk.safe.ne
  have hc : ¬ (false || decide (some c = some '#')) = true := by
    simpa using fun h : c = '#' => hk.noHash (by rw [hkc, h]; rfl)
  have hk' : String.ofList (c :: cs) = k := by rw [← hkc, String.ofList_toList]
  unfold lineRecord
  rw [parse, hkc]
  -- the line starts with `c`, the first character of the key
  refine (if_neg hc).trans ?_
  show some (String.singleton c, String.ofList (c :: cs), (r.map String.toList).map String.ofList) =
    some (String.ofList [c], k, r)
  rw [String.singleton_eq_ofList, hk', List.map_map]
  simp

end Casbin
