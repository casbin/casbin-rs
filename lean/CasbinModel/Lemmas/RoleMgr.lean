import CasbinModel.Lemmas.Bfs
/-!
The role manager, for C03.  Every operation and query touches one domain's graph, so the manager is studied through
`rm.graph d`: queries are rewritten to it once (`hasLink_eq`, `getRoles_def`, `getUsers_def`; the listings as
membership: `C03.getRoles_eq`, `C03.getUsers_eq`), the operations are one function on graphs (`Graph.step`,
`apply_graph`), and well-formedness and the refinement to the link-set specification are facts about `Graph.step`.

Argument order: operations and queries take the domain last, as in the source (`addLink a b d`, `RmOp.add a b d`;
`linkOf` of `Lemmas/Links` returns `(a, b, d)`); relations on links take it first (`L d a b`: `LinkRel`, `Refines`, and
`Implied`, `SyncedWith` of `Lemmas/Links`).
-/
namespace Casbin
variable {α : Type} [DecidableEq α]

theorem graph?_setDom (rm : RoleMgr α) (d d' : α) (g : Graph α) :
    ({ rm with doms := setDom rm.doms d g } : RoleMgr α).graph? d' =
      if d = d' then some g else rm.graph? d' := by
  simp only [RoleMgr.graph?]
  induction rm.doms with
  | nil => by_cases h : d = d' <;> simp [setDom, h]
  | cons p rest ih =>
    simp only [setDom, List.find?_cons]
    by_cases h0 : p.1 = d
    · rw [if_pos h0, List.find?_cons, h0]; by_cases h : d = d' <;> simp [h]
    · rw [if_neg h0, List.find?_cons]
      by_cases h1 : p.1 = d'
      · simp [h1, show ¬ d = d' from fun h => h0 (h1.trans h.symm)]
      · simpa [h1] using ih

theorem graph_setDom (rm : RoleMgr α) (d d' : α) (g : Graph α) :
    ({ rm with doms := setDom rm.doms d g } : RoleMgr α).graph d' = if d = d' then g else rm.graph d' := by
  simp only [RoleMgr.graph, graph?_setDom]; split <;> rfl

theorem RoleMgr.graph?_cases (rm : RoleMgr α) (d : α) :
    rm.graph? d = none ∧ rm.graph d = Graph.empty ∨ rm.graph? d = some (rm.graph d) := by
  unfold RoleMgr.graph; cases rm.graph? d <;> simp

theorem domainHasRole_eq (rm : RoleMgr α) (x d : α) :
    rm.domainHasRole x d = decide (x ∈ (rm.graph d).nodes) := by
  rcases rm.graph?_cases d with h | h <;> simp [RoleMgr.domainHasRole, h, Graph.empty]

theorem hasLink_eq (rm : RoleMgr α) (a b d : α) :
    rm.hasLink a b d = if a = b then true else
      if a ∈ (rm.graph d).nodes then
        search (rm.graph d) rm.maxLevel b ((rm.graph d).nodes.length + 1) (Bfs.init a)
      else false := by
  rcases rm.graph?_cases d with h | h <;> simp [RoleMgr.hasLink, h, Graph.empty]

theorem getRoles_def (rm : RoleMgr α) (a d : α) :
    rm.getRoles a d = if a ∈ (rm.graph d).nodes then dedup ((rm.graph d).succs a) else [] := by
  rcases rm.graph?_cases d with h | h <;> simp [RoleMgr.getRoles, h, Graph.empty]

theorem getUsers_def (rm : RoleMgr α) (a d : α) :
    rm.getUsers a d = if a ∈ (rm.graph d).nodes then dedup ((rm.graph d).preds a) else [] := by
  rcases rm.graph?_cases d with h | h <;> simp [RoleMgr.getUsers, h, Graph.empty]

theorem deleteLink_eq (rm : RoleMgr α) (a b d : α) :
    rm.deleteLink a b d = if a = b then some rm else
      if a ∈ (rm.graph d).nodes ∧ b ∈ (rm.graph d).nodes then
        some { rm with doms := setDom rm.doms d { rm.graph d with edges := (rm.graph d).edges.erase (a, b) } }
      else none := by
  simp only [RoleMgr.deleteLink, domainHasRole_eq, ← Bool.not_and, Bool.not_eq_true', Bool.and_eq_false_iff,
    decide_eq_false_iff_not, ← Classical.not_and_iff_not_or_not, ite_not]

/-- `nodes_nodup`: `get_or_create_role` looks the name up in `all_domains_indices` before it creates a node.
`edges_in`: both ends are created before the edge.  `edges_nodup`, `no_loop`: `add_link` stores no link twice and no
self-link; these two are invariants of the operations (`Graph.step_WF`), not of petgraph. -/
structure Graph.WF (g : Graph α) : Prop where
  nodes_nodup : g.nodes.Nodup
  edges_in : ∀ e ∈ g.edges, e.1 ∈ g.nodes ∧ e.2 ∈ g.nodes
  edges_nodup : g.edges.Nodup
  no_loop : ∀ e ∈ g.edges, e.1 ≠ e.2

def RoleMgr.WF (rm : RoleMgr α) : Prop := ∀ d, (rm.graph d).WF

omit [DecidableEq α] in
theorem Graph.WF_empty : (Graph.empty : Graph α).WF := by
  constructor <;> simp [Graph.empty]

theorem Graph.getOrCreate_nodes (g : Graph α) (n x : α) :
    x ∈ (g.getOrCreate n).nodes ↔ x ∈ g.nodes ∨ x = n := by
  unfold Graph.getOrCreate
  split
  · rename_i h; exact ⟨Or.inl, fun h1 => h1.elim id (fun e => e ▸ h)⟩
  · simp

theorem Graph.getOrCreate_edges (g : Graph α) (n : α) : (g.getOrCreate n).edges = g.edges := by
  unfold Graph.getOrCreate; split <;> rfl

theorem Graph.WF_getOrCreate {g : Graph α} (h : g.WF) (n : α) : (g.getOrCreate n).WF := by
  unfold Graph.getOrCreate
  by_cases hn : n ∈ g.nodes
  · rw [if_pos hn]; exact h
  · rw [if_neg hn]
    refine ⟨?_, fun e he => ?_, h.edges_nodup, h.no_loop⟩
    · exact List.nodup_append.mpr
        ⟨h.nodes_nodup, List.pairwise_singleton _ n, fun a ha b hb e => hn (List.mem_singleton.mp hb ▸ e ▸ ha)⟩
    · exact ⟨List.mem_append_left _ (h.edges_in e he).1, List.mem_append_left _ (h.edges_in e he).2⟩

/-- what an operation of the manager does to the graph of domain `d'` (`apply_graph`) -/
def Graph.step (d' : α) (g : Graph α) : RmOp α → Graph α
  | .add a b d =>
    if a = b ∨ d ≠ d' then g else
    let g1 := (g.getOrCreate a).getOrCreate b
    if (a, b) ∈ g1.edges then g1 else { g1 with edges := (a, b) :: g1.edges }
  | .del a b d =>
    if a ≠ b ∧ d = d' ∧ a ∈ g.nodes ∧ b ∈ g.nodes then { g with edges := g.edges.erase (a, b) } else g
  | .clear => Graph.empty

theorem apply_graph (rm : RoleMgr α) (op : RmOp α) (d' : α) :
    (rm.apply op).graph d' = (rm.graph d').step d' op := by
  cases op with
  | add a b d =>
    simp only [RoleMgr.apply, RoleMgr.addLink, Graph.step]
    by_cases hab : a = b
    · rw [if_pos hab, if_pos (Or.inl hab)]
    · rw [if_neg hab, graph_setDom]
      by_cases hd : d = d'
      · subst hd; rw [if_pos rfl, if_neg (not_or.mpr ⟨hab, not_not_intro rfl⟩)]
      · rw [if_neg hd, if_pos (Or.inr hd)]
  | del a b d =>
    simp only [RoleMgr.apply, deleteLink_eq, Graph.step]
    by_cases hab : a = b
    · rw [if_pos hab, if_neg fun h => h.1 hab]; rfl
    · rw [if_neg hab]
      by_cases hn : a ∈ (rm.graph d).nodes ∧ b ∈ (rm.graph d).nodes
      · rw [if_pos hn, Option.getD_some, graph_setDom]
        by_cases hd : d = d'
        · subst hd; rw [if_pos rfl, if_pos ⟨hab, rfl, hn⟩]
        · rw [if_neg hd, if_neg fun h => hd h.2.1]
      · rw [if_neg hn, if_neg]; · rfl
        exact fun h => hn (h.2.1 ▸ h.2.2)
  | clear => rfl

/-- `graph?` form of `C03.other_domain_irrelevant` (`none` is not a stored empty graph); feeds
`C03.queries_depend_only_on_domain_graph` -/
theorem apply_graph?_ne (rm : RoleMgr α) (a b : α) {d d' : α} (h : d' ≠ d) :
    (rm.apply (.add a b d')).graph? d = rm.graph? d ∧ (rm.apply (.del a b d')).graph? d = rm.graph? d := by
  constructor
  · show (rm.addLink a b d').graph? d = _
    simp only [RoleMgr.addLink, apply_ite (fun r => RoleMgr.graph? r d), graph?_setDom, if_neg h, ite_self]
  · show ((rm.deleteLink a b d').getD rm).graph? d = _
    simp only [deleteLink_eq, apply_ite (fun o : Option (RoleMgr α) => (o.getD rm).graph? d), Option.getD_some,
      Option.getD_none, graph?_setDom, if_neg h, ite_self]

theorem Graph.step_WF {g : Graph α} (h : g.WF) (d' : α) (op : RmOp α) : (g.step d' op).WF := by
  cases op with
  | add a b d =>
    simp only [Graph.step]
    by_cases hc : a = b ∨ d ≠ d'
    · rw [if_pos hc]; exact h
    · rw [if_neg hc]
      have h1 := Graph.WF_getOrCreate (Graph.WF_getOrCreate h a) b
      by_cases hne : (a, b) ∈ ((g.getOrCreate a).getOrCreate b).edges
      · rw [if_pos hne]; exact h1
      · rw [if_neg hne]
        refine ⟨h1.nodes_nodup, ?_, List.nodup_cons.mpr ⟨hne, h1.edges_nodup⟩, ?_⟩ <;>
          simp only [List.forall_mem_cons]
        · exact ⟨by simp [Graph.getOrCreate_nodes], h1.edges_in⟩
        · exact ⟨fun e => hc (Or.inl e), h1.no_loop⟩
  | del a b d =>
    simp only [Graph.step]
    split
    · exact ⟨h.nodes_nodup, fun e he => h.edges_in e (List.mem_of_mem_erase he), h.edges_nodup.erase _,
        fun e he => h.no_loop e (List.mem_of_mem_erase he)⟩
    · exact h
  | clear => exact Graph.WF_empty

theorem Graph.step_edges {g : Graph α} (h : g.WF) (d' : α) (op : RmOp α) (x y : α) :
    (x, y) ∈ (g.step d' op).edges ↔
      match op with
      | .add a b d => (x, y) ∈ g.edges ∨ (a ≠ b ∧ d = d' ∧ x = a ∧ y = b)
      | .del a b d => (x, y) ∈ g.edges ∧ ¬ (d = d' ∧ x = a ∧ y = b)
      | .clear => False := by
  cases op with
  | add a b d =>
    simp only [Graph.step]
    by_cases hc : a = b ∨ d ≠ d'
    · rw [if_pos hc]
      exact ⟨Or.inl, fun h1 => h1.elim id (fun h2 => (hc.elim h2.1 (· h2.2.1)).elim)⟩
    · rw [if_neg hc, Graph.getOrCreate_edges, Graph.getOrCreate_edges]
      by_cases he : (a, b) ∈ g.edges
      · rw [if_pos he, Graph.getOrCreate_edges, Graph.getOrCreate_edges]
        exact ⟨Or.inl, fun h1 => h1.elim id (fun h2 => h2.2.2.1 ▸ h2.2.2.2 ▸ he)⟩
      · rw [if_neg he, List.mem_cons, Prod.mk.injEq, or_comm]
        exact or_congr_right
          ⟨fun h => ⟨(not_or.mp hc).1, Decidable.not_not.mp (not_or.mp hc).2, h⟩, fun h => h.2.2⟩
  | del a b d =>
    simp only [Graph.step]
    by_cases hc : a ≠ b ∧ d = d' ∧ a ∈ g.nodes ∧ b ∈ g.nodes
    · rw [if_pos hc, h.edges_nodup.mem_erase_iff, ne_eq, Prod.mk.injEq, and_comm]
      exact and_congr_right fun _ => not_congr (and_iff_right hc.2.1).symm
    · -- nothing is deleted; a stored link of this domain would have passed the test (`no_loop`, `edges_in`)
      rw [if_neg hc]
      refine ⟨fun he => ⟨he, fun h2 => hc ?_⟩, And.left⟩
      obtain ⟨rfl, rfl, rfl⟩ := h2
      exact ⟨h.no_loop _ he, rfl, h.edges_in _ he⟩
  | clear => simp [Graph.step, Graph.empty]

theorem WF_new (n : Nat) : (RoleMgr.new n : RoleMgr α).WF := fun _ => Graph.WF_empty

theorem WF_apply {rm : RoleMgr α} (hw : rm.WF) (op : RmOp α) : (rm.apply op).WF :=
  fun d => apply_graph rm op d ▸ Graph.step_WF (hw d) d op

theorem WF_run {rm : RoleMgr α} (hw : rm.WF) (h : List (RmOp α)) : (rm.run h).WF := by
  induction h generalizing rm with
  | nil => exact hw
  | cons op ops ih => exact ih (WF_apply hw op)

theorem deleteLink_apply {rm rm' : RoleMgr α} {a b d : α} (h : rm.deleteLink a b d = some rm') :
    rm.apply (.del a b d) = rm' := by simp [RoleMgr.apply, h]

theorem addLink_WF {rm : RoleMgr α} (hw : rm.WF) (a b d : α) : (rm.addLink a b d).WF :=
  WF_apply hw (.add a b d)

theorem deleteLink_WF {rm rm' : RoleMgr α} (hw : rm.WF) {a b d : α} (h : rm.deleteLink a b d = some rm') :
    rm'.WF := deleteLink_apply h ▸ WF_apply hw _

theorem WF_clear (rm : RoleMgr α) : rm.clear.WF := fun _ => Graph.WF_empty

theorem addLink_edges {rm : RoleMgr α} (hw : rm.WF) (a b d d' x y : α) :
    (x, y) ∈ ((rm.addLink a b d).graph d').edges ↔
      (x, y) ∈ (rm.graph d').edges ∨ (a ≠ b ∧ d = d' ∧ x = a ∧ y = b) :=
  apply_graph rm (.add a b d) d' ▸ Graph.step_edges (hw d') d' (.add a b d) x y

theorem deleteLink_edges {rm rm' : RoleMgr α} (hw : rm.WF) {a b d : α}
    (h : rm.deleteLink a b d = some rm') (d' x y : α) :
    (x, y) ∈ (rm'.graph d').edges ↔ (x, y) ∈ (rm.graph d').edges ∧ ¬ (d = d' ∧ x = a ∧ y = b) :=
  deleteLink_apply h ▸ apply_graph rm (.del a b d) d' ▸ Graph.step_edges (hw d') d' (.del a b d) x y

theorem deleteLink_nodes {rm rm' : RoleMgr α} {a b d : α} (h : rm.deleteLink a b d = some rm')
    (d' : α) : (rm'.graph d').nodes = (rm.graph d').nodes := by
  rw [← deleteLink_apply h, apply_graph]; simp only [Graph.step]; split <;> rfl

@[simp] theorem addLink_maxLevel (rm : RoleMgr α) (a b d : α) : (rm.addLink a b d).maxLevel = rm.maxLevel := by
  rw [RoleMgr.addLink, apply_ite RoleMgr.maxLevel, ite_self]

theorem maxLevel_apply (rm : RoleMgr α) (op : RmOp α) : (rm.apply op).maxLevel = rm.maxLevel := by
  cases op with
  | add a b d => exact addLink_maxLevel rm a b d
  | del a b d =>
    show ((rm.deleteLink a b d).getD rm).maxLevel = _
    simp only [deleteLink_eq, apply_ite (fun o : Option (RoleMgr α) => (o.getD rm).maxLevel), Option.getD_some,
      Option.getD_none, ite_self]
  | clear => rfl

theorem maxLevel_run (rm : RoleMgr α) (h : List (RmOp α)) : (rm.run h).maxLevel = rm.maxLevel := by
  induction h generalizing rm with
  | nil => rfl
  | cons op ops ih => exact (ih _).trans (maxLevel_apply rm op)

/-- `L d a b`: the link `a → b` is present in domain `d` -/
abbrev LinkRel (α : Type) := α → α → α → Bool

def LinkRel.step (L : LinkRel α) : RmOp α → LinkRel α
  | .add a b d => fun d' a' b' => if a ≠ b ∧ d' = d ∧ a' = a ∧ b' = b then true else L d' a' b'
  | .del a b d => fun d' a' b' => if d' = d ∧ a' = a ∧ b' = b then false else L d' a' b'
  | .clear => fun _ _ _ => false

def LinkRel.run (L : LinkRel α) (h : List (RmOp α)) : LinkRel α := h.foldl LinkRel.step L

def LinkRel.empty : LinkRel α := fun _ _ _ => false

def Refines (rm : RoleMgr α) (L : LinkRel α) : Prop :=
  ∀ d a b, (a, b) ∈ (rm.graph d).edges ↔ L d a b = true

theorem refines_apply {rm : RoleMgr α} {L : LinkRel α} (hw : rm.WF) (hr : Refines rm L) (op : RmOp α) :
    Refines (rm.apply op) (L.step op) := by
  intro d' x y
  rw [apply_graph, Graph.step_edges (hw d'), hr d' x y]
  -- `LinkRel.step` tests `d' = d` where `Graph.step_edges` says `d = d'`: `eq_comm`
  cases op with
  | add a b d => simp only [LinkRel.step, eq_comm (a := d)]; split <;> simp [*]
  | del a b d => simp only [LinkRel.step, eq_comm (a := d)]; split <;> simp [*]
  | clear => simp [LinkRel.step]

theorem refines_run {rm : RoleMgr α} {L : LinkRel α} (hw : rm.WF) (hr : Refines rm L) (h : List (RmOp α)) :
    Refines (rm.run h) (L.run h) := by
  induction h generalizing rm L with
  | nil => exact hr
  | cons op ops ih => exact ih (WF_apply hw op) (refines_apply hw hr op)

theorem refines_new (n : Nat) : Refines (RoleMgr.new n : RoleMgr α) LinkRel.empty :=
  fun _ _ _ => ⟨fun h => (List.not_mem_nil h).elim, fun h => (Bool.false_ne_true h).elim⟩

/-- paths in the spec's link relation of one domain -/
inductive SpecPath (R : α → α → Bool) : α → α → Nat → Prop
  | nil (a) : SpecPath R a a 0
  | cons {a b c n} : R a b = true → SpecPath R b c n → SpecPath R a c (n + 1)

omit [DecidableEq α] in
theorem path_iff_specPath {g : Graph α} {R : α → α → Bool} (h : ∀ a b, (a, b) ∈ g.edges ↔ R a b = true)
    {a b : α} {n : Nat} : Path g a b n ↔ SpecPath R a b n := by
  constructor
  · intro hp; induction hp with
    | nil a => exact SpecPath.nil _
    | cons he _ ih => exact SpecPath.cons ((h _ _).mp he) ih
  · intro hp; induction hp with
    | nil a => exact Path.nil _
    | cons he _ ih => exact Path.cons ((h _ _).mpr he) ih

end Casbin
