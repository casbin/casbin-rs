import CasbinModel.Lemmas.Segments
/-!
Matching (C15): `segCaps`, the segment-wise meaning with the text each named segment stands for, and the one theorem
relating the backtracking match of the compiled segments to it, whatever group stands for a named segment: capturing or
not, greedy or lazy (`matchItems_itemsG`; the reason: `firstSome_seg`).  The matchers without captures
(`matchItems_itemsOf`) forget the captures.
-/
namespace Casbin

/-- the text of every named segment, in order; `*` stands for the longest newline-free stretch after which the remaining
segments still match -/
def segCaps : List PSeg → Str → Option (List Str)
  | [], k => if k.isEmpty then some [] else none
  | .lit s :: ps, k =>
    (match k with
     | '/' :: t => if s.isPrefixOf t then segCaps ps (t.drop s.length) else none
     | _ => none)
  | .named _ :: ps, k =>
    (match k with
     | '/' :: t =>
       if (t.takeWhile (· ≠ '/')).isEmpty then none
       else (segCaps ps (t.dropWhile (· ≠ '/'))).map (t.takeWhile (· ≠ '/') :: ·)
     | _ => none)
  | .rest :: ps, k =>
    (match k with
     | '/' :: t => firstSome (restTails t).reverse (segCaps ps)
     | _ => none)

theorem firstSome_eq {α β : Type} (xs : List α) (f : α → Option β) : firstSome xs f = xs.findSome? f := by
  induction xs with
  | nil => rfl
  | cons x rest ih =>
    rw [firstSome, List.findSome?_cons, ih]
    cases f x <;> rfl

theorem firstSome_isSome {α β : Type} (xs : List α) (f : α → Option β) :
    (firstSome xs f).isSome = xs.any (fun x => (f x).isSome) := by
  rw [firstSome_eq, Bool.eq_iff_iff, List.findSome?_isSome_iff, List.any_eq_true]

/-- if at most the candidate `x` can succeed, the order of the candidates does not matter -/
theorem firstSome_unique {α β : Type} [DecidableEq α] (xs : List α) (f : α → Option β) (x : α)
    (h : ∀ y ∈ xs, y ≠ x → f y = none) : firstSome xs f = if x ∈ xs then f x else none := by
  induction xs with
  | nil => rfl
  | cons y rest ih =>
    have ih' := ih fun z hz => h z (List.mem_cons_of_mem _ hz)
    simp only [firstSome]
    by_cases hy : y = x
    · subst hy
      cases hf : f y with
      | some b => simp
      | none => simp only [ih', hf, ite_self]
    · rw [h y List.mem_cons_self hy, ih']
      simp [Ne.symm hy]

theorem mem_splits (p : Char → Bool) (s a b : Str) :
    (a, b) ∈ splits p s ↔ s = a ++ b ∧ ∀ c ∈ a, p c = true := by
  induction s generalizing a with
  | nil =>
    rw [splits, List.mem_singleton, Prod.mk.injEq, List.nil_eq, List.append_eq_nil_iff]
    exact ⟨fun h => ⟨h, h.1 ▸ fun _ hc => nomatch hc⟩, And.left⟩
  | cons c cs ih =>
    rw [splits, List.mem_cons]
    constructor
    · rintro (h | h)
      · cases h; exact ⟨rfl, fun _ hc => nomatch hc⟩
      · split at h
        · obtain ⟨⟨a', b'⟩, hm, heq⟩ := List.mem_map.mp h
          cases heq
          obtain ⟨rfl, h2⟩ := (ih a').mp hm
          exact ⟨rfl, List.forall_mem_cons.mpr ⟨‹_›, h2⟩⟩
        · cases h
    · rintro ⟨h, hall⟩
      cases a with
      | nil => exact .inl (by rw [h]; rfl)
      | cons x a' =>
        cases h
        have := List.forall_mem_cons.mp hall
        exact .inr (by rw [if_pos this.1]; exact List.mem_map.mpr ⟨(a', b), (ih a').mpr ⟨rfl, this.2⟩, rfl⟩)

theorem restTails_eq (t : Str) : restTails t = (splits (· ≠ '\n') t).map (·.2) := by
  induction t with
  | nil => rfl
  | cons c cs ih =>
    simp only [restTails, splits, List.map_cons]
    by_cases h : c ≠ '\n'
    · simp [h, ih, List.map_map, Function.comp_def]
    · simp [h]

theorem mem_takeWhile_sat (p : Char → Bool) (t : Str) (c : Char) (h : c ∈ t.takeWhile p) : p c = true :=
  List.all_eq_true.mp List.all_takeWhile c h

/-- Of the ways to cut a non-empty `/`-free prefix off `t`, only the whole `/`-free run leaves a rest that is empty or
starts a segment: a search through them for one after which `F` succeeds tries that one, whatever the order of the
candidates `C`. -/
theorem firstSome_seg {β : Type} (t : Str) (C : List (Str × Str)) (F : Str × Str → Option β)
    (hC : ∀ pr, pr ∈ C ↔ pr ∈ splits (· ≠ '/') t ∧ pr.1.isEmpty = false)
    (hF : ∀ pr v, F pr = some v → pr.2 = [] ∨ ∃ t', pr.2 = '/' :: t') :
    firstSome C F =
      if (t.takeWhile (· ≠ '/')).isEmpty then none else F (t.takeWhile (· ≠ '/'), t.dropWhile (· ≠ '/')) := by
  rw [firstSome_unique C F (t.takeWhile (· ≠ '/'), t.dropWhile (· ≠ '/'))]
  · have : (t.takeWhile (· ≠ '/'), t.dropWhile (· ≠ '/')) ∈ splits (· ≠ '/') t :=
      (mem_splits ..).mpr ⟨List.takeWhile_append_dropWhile.symm, mem_takeWhile_sat _ t⟩
    simp only [hC, this, true_and]
    cases (t.takeWhile (· ≠ '/')).isEmpty <;> rfl
  · rintro ⟨a, b⟩ hm hne
    cases hs : F (a, b) with
    | none => rfl
    | some v =>
      obtain ⟨rfl, hall⟩ := (mem_splits _ t a b).mp ((hC _).mp hm).1
      obtain ⟨e1, e2⟩ := span_seg hall (hF _ v hs)
      exact absurd (by rw [e1, e2]) hne

theorem matchItems_map_ch (I : List Item) (s : Str) (k : Str) :
    matchItems (s.map Item.ch ++ I) k = if s.isPrefixOf k then matchItems I (k.drop s.length) else none := by
  induction s generalizing k with
  | nil => rfl
  | cons c s ihs =>
    cases k with
    | nil => rfl
    | cons y r =>
      show (if y = c then matchItems (s.map Item.ch ++ I) r else none) =
        if (c == y && s.isPrefixOf r) = true then matchItems I (r.drop s.length) else none
      rw [ihs]
      by_cases hy : y = c
      · simp [hy]
      · simp [hy, Ne.symm hy]

/-! ### matching the compiled segments

Every segment starts at a `/`: on a key that does not, all three fail. -/

theorem segCaps_cons_none {p : PSeg} {ps : List PSeg} {k : Str} (h : ¬ ∃ t, k = '/' :: t) : segCaps (p :: ps) k = none := by
  cases p <;> (unfold segCaps; split; exact absurd ⟨_, rfl⟩ h; rfl)

theorem segMatch_cons_false {p : PSeg} {ps : List PSeg} {k : Str} (h : ¬ ∃ t, k = '/' :: t) :
    segMatch (p :: ps) k = false := by
  cases p <;> (unfold segMatch; split; exact absurd ⟨_, rfl⟩ h; rfl)

theorem matchItems_cons_none {g : Item} {p : PSeg} {ps : List PSeg} {k : Str} (h : ¬ ∃ t, k = '/' :: t) :
    matchItems (itemsG g (p :: ps)) k = none := by
  rcases k with _ | ⟨x, t⟩
  · cases p <;> rfl
  · have : x ≠ '/' := fun hx => h ⟨t, by rw [hx]⟩
    cases p <;> exact if_neg this

theorem segCaps_head (ps : List PSeg) (b : Str) (v : List Str) (h : segCaps ps b = some v) :
    b = [] ∨ ∃ t, b = '/' :: t := by
  cases ps with
  | nil =>
    unfold segCaps at h
    split at h
    · exact .inl (List.isEmpty_iff.mp ‹_›)
    · cases h
  | cons p ps => exact .inr (Classical.not_not.mp fun hk => by rw [segCaps_cons_none hk] at h; cases h)

/-- `named`: by `firstSome_seg` only the whole slash-free run can succeed, so greedy or lazy order is irrelevant -/
theorem matchItems_itemsG (cap lzy : Bool) (ps : List PSeg) (k : Str) :
    matchItems (itemsG (.seg cap lzy) ps) k = (segCaps ps k).map (fun caps => if cap then caps else []) := by
  induction ps generalizing k with
  | nil => cases k <;> cases cap <;> rfl
  | cons p ps ih =>
    by_cases hk : ∃ t, k = '/' :: t
    case neg => rw [matchItems_cons_none hk, segCaps_cons_none hk]; rfl
    obtain ⟨t, rfl⟩ := hk
    cases p with
    | lit s =>
      simp only [itemsG, matchItems, if_true, segCaps]
      rw [matchItems_map_ch]
      split
      · exact ih _
      · rfl
    | named n =>
      simp only [itemsG, matchItems, if_true, segCaps]
      refine (firstSome_seg t _ _ (fun pr => by cases lzy <;> simp) ?_).trans ?_
      · intro pr v h
        rw [ih] at h
        cases hs : segCaps ps pr.2 with
        | none => rw [hs] at h; cases h
        | some w => exact segCaps_head ps _ w hs
      · cases (t.takeWhile (· ≠ '/')).isEmpty <;> cases cap <;> simp [ih, Function.comp_def]
    | rest =>
      -- the candidates of `.dotStar` are `restTails t` (`restTails_eq`), tried in the same order
      simp only [itemsG, matchItems, if_true, segCaps, firstSome_eq, restTails_eq, ← List.map_reverse,
        List.findSome?_map, List.map_findSome?, Function.comp_def, ih]

theorem matchItems_itemsOfC (lzy : Bool) (ps : List PSeg) (k : Str) :
    matchItems (itemsOfC lzy ps) k = segCaps ps k := by
  simp [itemsOfC, matchItems_itemsG]

theorem segCaps_isSome (ps : List PSeg) (k : Str) : (segCaps ps k).isSome = segMatch ps k := by
  induction ps generalizing k with
  | nil => cases k <;> rfl
  | cons p ps ih =>
    by_cases hk : ∃ t, k = '/' :: t
    case neg => rw [segCaps_cons_none hk, segMatch_cons_false hk]; rfl
    obtain ⟨t, rfl⟩ := hk
    cases p with
    | lit s => cases hp : s.isPrefixOf t <;> simp [segCaps, segMatch, hp, ih]
    | named n =>
      simp only [segCaps, segMatch]
      cases (t.takeWhile (· ≠ '/')).isEmpty <;> simp [ih]
    | rest => simp [segCaps, segMatch, firstSome_isSome, ih]

theorem matchItems_itemsOf (ps : List PSeg) (k : Str) :
    (matchItems (itemsOf ps) k).isSome = segMatch ps k := by
  rw [itemsOf, matchItems_itemsG, Option.isSome_map, segCaps_isSome]

end Casbin
