import CasbinModel.KeyMatch
import CasbinModel.Lemmas.ListAux
/-! UTF-8 is a prefix code: byte-prefix comparison is character-prefix comparison (C15). -/
namespace Casbin

def enc (c : Char) : List Nat := utf8Bytes [c]

theorem utf8Bytes_cons (c : Char) (s : Str) : utf8Bytes (c :: s) = enc c ++ utf8Bytes s := by
  simp only [utf8Bytes, enc, List.flatMap_cons, List.flatMap_nil, List.append_nil]

theorem utf8Bytes_append (a b : Str) : utf8Bytes (a ++ b) = utf8Bytes a ++ utf8Bytes b :=
  List.flatMap_append

theorem enc_length (c : Char) : (enc c).length = utf8Size c := by
  simp only [enc, utf8Bytes, utf8Size, List.flatMap_cons, List.flatMap_nil, List.append_nil, apply_ite List.length,
    List.length_cons, List.length_nil]

theorem utf8Len_eq (s : Str) : utf8Len s = (utf8Bytes s).length := by
  induction s with
  | nil => rfl
  | cons c t ih =>
    rw [utf8Bytes_cons, List.length_append, enc_length, ← ih]
    simp [utf8Len]

theorem utf8Size_pos (c : Char) : 0 < utf8Size c := by
  simp [utf8Size, apply_ite (0 < ·)]

theorem enc_ne_nil (c : Char) : enc c ≠ [] :=
  List.ne_nil_of_length_pos (enc_length c ▸ utf8Size_pos c)

/-- decodes one character: its code point and the bytes after it.  The lead byte gives the number of continuation
bytes, six bits each. -/
def decHead : List Nat → Nat × List Nat
  | [] => (0, [])
  | b :: r =>
    let (k, lead) :=
      if b < 0x80 then (0, b) else if b < 0xE0 then (1, b - 0xC0) else if b < 0xF0 then (2, b - 0xE0) else (3, b - 0xF0)
    ((r.take k).foldl (fun a x => a * 64 + (x - 0x80)) lead, r.drop k)

theorem decHead_enc (c : Char) (X : List Nat) : decHead (enc c ++ X) = (c.toNat, X) := by
  simp only [enc, utf8Bytes, List.flatMap_cons, List.flatMap_nil, List.append_nil]
  generalize c.toNat = n
  -- the continuation bytes are the base-64 digits of `n`
  rw [← Nat.div_div_eq_div_mul n 4096 64, ← Nat.div_div_eq_div_mul n 64 64]
  -- the lead byte is at least the base of its class (`ge`) and, its digit being small, below the next base (`this`);
  -- `omega` on the nested quotients would cost several times the rest of the proof
  have ge : ∀ {a b : Nat} (q : Nat), b ≤ a → ¬ a + q < b := fun q h => Nat.not_lt.mpr (Nat.le_add_right_of_le h)
  by_cases h1 : n < 0x80
  · simp [decHead, h1]
  by_cases h2 : n < 0x800
  · have := Nat.add_lt_add_left (Nat.div_lt_of_lt_mul (show n < 64 * 0x20 from h2)) 0xC0
    simp [decHead, h1, h2, this, ge, Nat.div_add_mod']
  by_cases h3 : n < 0x10000
  · have := Nat.add_lt_add_left (Nat.div_lt_of_lt_mul (Nat.div_lt_of_lt_mul (show n < 64 * (64 * 0x10) from h3))) 0xE0
    simp [decHead, h1, h2, h3, this, ge, Nat.div_add_mod']
  · simp [decHead, h1, h2, h3, ge, Nat.div_add_mod']

/-- a prefix code, since it can be decoded -/
theorem enc_prefix_inj (c d : Char) (X Y : List Nat) (h : enc c ++ X = enc d ++ Y) : c = d ∧ X = Y := by
  have := congrArg decHead h
  simp only [decHead_enc, Prod.mk.injEq] at this
  exact ⟨Char.toNat_inj.mp this.1, this.2⟩

theorem bytes_prefix_iff (pre k : Str) :
    (∃ Z, utf8Bytes k = utf8Bytes pre ++ Z) ↔ pre <+: k := by
  refine ⟨?_, fun ⟨t, ht⟩ => ⟨utf8Bytes t, by rw [← ht, utf8Bytes_append]⟩⟩
  induction pre generalizing k with
  | nil => exact fun _ => List.nil_prefix
  | cons c pre ih =>
    rintro ⟨Z, hZ⟩
    cases k with
    | nil => simp [show utf8Bytes [] = [] from rfl, utf8Bytes_cons, enc_ne_nil] at hZ
    | cons d k =>
      rw [utf8Bytes_cons, utf8Bytes_cons, List.append_assoc] at hZ
      obtain ⟨rfl, hrest⟩ := enc_prefix_inj d c _ _ hZ
      exact List.cons_prefix_cons.mpr ⟨rfl, ih k ⟨Z, hrest⟩⟩

/-- the crate compares the first `pre.len()` bytes of the key -/
theorem bytes_take_beq (k pre : Str) : ((utf8Bytes k).take (utf8Len pre) == utf8Bytes pre) = pre.isPrefixOf k := by
  rw [utf8Len_eq pre, Bool.eq_iff_iff, beq_iff_eq, take_eq_iff_prefix, bytes_prefix_iff, List.isPrefixOf_iff_prefix]

end Casbin
