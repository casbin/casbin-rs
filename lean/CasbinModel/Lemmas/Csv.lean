import CasbinModel.Text
import CasbinModel.Lemmas.ListAux
/-! Blanks and trimming; the column regex on one written column; `find_iter` over a line; the lines of a text
(C09, C16). -/
namespace Casbin

theorem decide_ne_of_ws {ws : List Char} (h : ∀ x ∈ ws, isWs x = true) {c : Char} (hc : isWs c = false) :
    ∀ x ∈ ws, decide (x ≠ c) = true :=
  decide_ne_of_not_mem fun hm => by rw [h c hm] at hc; cases hc

theorem trimL_of_head {s : List Char} (h : ∀ c, s.head? = some c → isWs c = false) : trimL s = s :=
  dropWhile_of_head h

theorem trimR_of_last {s : List Char} (h : ∀ c, s.getLast? = some c → isWs c = false) : trimR s = s :=
  dropEnd_of_last h

theorem trimR_append_ws {ws : List Char} (h : ∀ c ∈ ws, isWs c = true) (s : List Char) : trimR (s ++ ws) = trimR s := by
  unfold trimR
  rw [List.reverse_append, List.dropWhile_append_of_pos fun c hc => h c (List.mem_reverse.mp hc)]

theorem trimL_ws_append {ws : List Char} (h : ∀ c ∈ ws, isWs c = true) (s : List Char) : trimL (ws ++ s) = trimL s :=
  List.dropWhile_append_of_pos h

/-- non-empty, no blank at either end: what `trim` leaves alone and gives back from any padding (`Tight.trim_pad`) -/
def Tight (s : List Char) : Prop :=
  s ≠ [] ∧ (∀ c, s.head? = some c → isWs c = false) ∧ (∀ c, s.getLast? = some c → isWs c = false)

theorem Tight.append {a b : List Char} (ha : Tight a) (hb : Tight b) (m : List Char) : Tight (a ++ m ++ b) := by
  obtain ⟨x, t, rfl⟩ := List.exists_cons_of_ne_nil ha.1
  exact ⟨List.cons_ne_nil _ _, ha.2.1, by rw [getLast?_append_ne _ _ hb.1]; exact hb.2.2⟩

theorem Tight.trim_pad {s ws1 ws2 : List Char} (hs : Tight s) (h1 : ∀ c ∈ ws1, isWs c = true)
    (h2 : ∀ c ∈ ws2, isWs c = true) : trim (ws1 ++ s ++ ws2) = s := by
  obtain ⟨x, t, rfl⟩ := List.exists_cons_of_ne_nil hs.1
  rw [trim, List.append_assoc, trimL_ws_append h1, trimL_of_head (s := x :: t ++ ws2) hs.2.1, trimR_append_ws h2,
    trimR_of_last hs.2.2]

theorem Tight.trim_eq {s : List Char} (hs : Tight s) : trim s = s := by
  rw [trim, trimL_of_head hs.2.1, trimR_of_last hs.2.2]

theorem tight_wrap {a b : Char} (ha : isWs a = false) (hb : isWs b = false) (s : List Char) : Tight (a :: s ++ [b]) :=
  ⟨List.cons_ne_nil _ _, fun _ h => Option.some.inj h ▸ ha, fun _ h => Option.some.inj (List.getLast?_concat ▸ h) ▸ hb⟩

/-! ### one column -/

/-- what stands behind a column: the end of the line, or the separating comma -/
def AtSep (rest : List Char) : Prop := ∀ c, rest.head? = some c → c = ','

/-- a value the text format can carry: no `"` (none can be escaped), no blank at either end (`trim` would drop it);
commas allowed.  No line break is asked only where a text is cut into lines (`SafeRule.oneLine`, `SafeKey.oneLine`). -/
structure SafeField (f : List Char) : Prop where
  ne : f ≠ []
  noQuote : '"' ∉ f
  headNotWs : ∀ c, f.head? = some c → isWs c = false
  lastNotWs : ∀ c, f.getLast? = some c → isWs c = false

theorem SafeField.tight {f : List Char} (hf : SafeField f) : Tight f := ⟨hf.ne, hf.headNotWs, hf.lastNotWs⟩

/-- before a separator or the end of the line, the column regex matches all of `c` -/
def GoodCol (c : List Char) : Prop := ∀ rest, AtSep rest → colMatch (c ++ rest) = (c, rest)

theorem colMatch_bare {s : List Char} (h : (s.dropWhile isWs).head? ≠ some '"') :
    colMatch s = (s.takeWhile (· ≠ ','), s.dropWhile (· ≠ ',')) := by
  rw [colMatch]
  split
  · rename_i heq; rw [heq] at h; exact absurd rfl h
  · rfl

section
variable {ws1 ws2 f : List Char} (h1 : ∀ c ∈ ws1, isWs c = true) (h2 : ∀ c ∈ ws2, isWs c = true)
include h1 h2

theorem goodCol_quoted (hq : '"' ∉ f) : GoodCol (ws1 ++ ('"' :: f ++ ['"']) ++ ws2) := by
  intro rest hr
  -- first alternative of the regex, three scans: leading blanks, body up to the closing quote, trailing blanks
  have e1 := span_stop_cons (p := isWs) h1 (c := '"') (by decide) (f ++ '"' :: (ws2 ++ rest))
  have e2 := span_stop_cons (p := (· ≠ '"')) (decide_ne_of_not_mem hq) (c := '"') (by decide) (ws2 ++ rest)
  have e3 := span_stop (p := isWs) (b := rest) h2 (fun c hc => by rw [hr c hc]; rfl)
  simp only [List.append_assoc, List.cons_append, List.nil_append]
  simp only [colMatch, e1.1, e1.2, e2.1, e2.2, e3.1, e3.2]
  simp

/-- second alternative: the maximal comma-free run, blanks included -/
theorem goodCol_bare (hf : SafeField f) (hc : ',' ∉ f) : GoodCol (ws1 ++ f ++ ws2) := by
  obtain ⟨x, t, rfl⟩ := List.exists_cons_of_ne_nil hf.ne
  intro rest hr
  have e1 := span_stop (p := isWs) (b := x :: t ++ ws2 ++ rest) h1 hf.headNotWs
  have e2 := span_stop (p := (· ≠ ',')) (b := rest)
    (List.forall_mem_append.mpr
      ⟨List.forall_mem_append.mpr ⟨decide_ne_of_ws h1 rfl, decide_ne_of_not_mem hc⟩, decide_ne_of_ws h2 rfl⟩)
    (fun c hc => by rw [hr c hc]; rfl)
  rw [← List.append_assoc, ← List.append_assoc] at e1
  rw [colMatch_bare (by rw [e1.2]; exact fun h => hf.noQuote (Option.some.inj h ▸ List.mem_cons_self)), e2.1, e2.2]

theorem unquote_trim_quoted : unquote (trim (ws1 ++ ('"' :: f ++ ['"']) ++ ws2)) = f := by
  have hl : ('"' :: (f ++ ['"'])).getLast? = some '"' := List.getLast?_concat (l := '"' :: f)
  rw [(tight_wrap (by decide) (by decide) f).trim_pad h1 h2]
  simp [unquote, hl]

theorem unquote_trim_bare (hf : SafeField f) : unquote (trim (ws1 ++ f ++ ws2)) = f := by
  rw [hf.tight.trim_pad h1 h2]
  obtain ⟨x, t, rfl⟩ := List.exists_cons_of_ne_nil hf.ne
  have hx : x ≠ '"' := fun h => hf.noQuote (h ▸ List.mem_cons_self)
  simp [unquote, hx]

end

/-! ### a line of columns: the first, then the others each behind its comma -/

theorem joinWith_cons (sep x : List Char) (xs : List (List Char)) :
    joinWith sep (x :: xs) = x ++ xs.flatMap (sep ++ ·) := by
  induction xs generalizing x with
  | nil => exact (List.append_nil x).symm
  | cons y ys ih =>
    show x ++ sep ++ joinWith sep (y :: ys) = _
    rw [ih y, List.flatMap_cons, List.append_assoc, List.append_assoc]

theorem atSep_flatMap (cs : List (List Char)) : AtSep (cs.flatMap (',' :: ·)) := by
  cases cs with
  | nil => exact fun _ h => nomatch h
  | cons c cs => exact fun _ h => (Option.some.inj h).symm

/-- `ws` need not be blanks: anything may stand between a comma and the tight end of its column -/
theorem tight_line {c : List Char} {cs : List (List Char)} (hc : Tight c)
    (hcs : ∀ x ∈ cs, ∃ ws f, x = ws ++ f ∧ Tight f) : Tight (c ++ cs.flatMap (',' :: ·)) := by
  induction cs generalizing c with
  | nil => simpa using hc
  | cons x xs ih =>
    obtain ⟨ws, f, rfl, hf⟩ := hcs x List.mem_cons_self
    simpa [List.append_assoc] using ih (hc.append hf (',' :: ws)) (fun y hy => hcs y (List.mem_cons_of_mem _ hy))

/-! `find_iter` step by step: the first match is taken as it is; after a match, the empty match at the comma is
adjacent to it and skipped, and the search restarts one character on; at the end of the line the empty match ends the
iteration.  A match costs one unit of fuel and without fuel the iteration stops, so the statements ask for more fuel
than columns; `parse_csv_line` gives `2 * length + 3`. -/

theorem csvCols_first (fuel : Nat) (s : List Char) :
    csvCols (fuel + 1) s false = (colMatch s).1 :: csvCols fuel (colMatch s).2 true :=
  if_neg (by rw [Bool.and_false]; exact Bool.false_ne_true)

theorem csvCols_comma (fuel : Nat) (s : List Char) :
    csvCols (fuel + 1) (',' :: s) true = (colMatch s).1 :: csvCols fuel (colMatch s).2 true := rfl

theorem csvCols_end (fuel : Nat) : csvCols (fuel + 1) [] true = [] := rfl

theorem csvCols_sep (cs : List (List Char)) (hg : ∀ c ∈ cs, GoodCol c) (fuel : Nat) (hf : cs.length < fuel) :
    csvCols fuel (cs.flatMap (',' :: ·)) true = cs := by
  induction cs generalizing fuel with
  | nil =>
    obtain ⟨n, rfl⟩ := exists_add_one_of_lt hf
    exact csvCols_end n
  | cons c cs ih =>
    obtain ⟨n, rfl⟩ := exists_add_one_of_lt hf
    rw [List.flatMap_cons, List.cons_append, csvCols_comma, hg c List.mem_cons_self _ (atSep_flatMap cs),
      ih (fun x hx => hg x (List.mem_cons_of_mem _ hx)) n (Nat.lt_of_succ_lt_succ hf)]

theorem csvCols_line (c : List Char) (cs : List (List Char)) (hg : ∀ x ∈ c :: cs, GoodCol x) (fuel : Nat)
    (hf : cs.length + 1 < fuel) : csvCols fuel (c ++ cs.flatMap (',' :: ·)) false = c :: cs := by
  obtain ⟨n, rfl⟩ := exists_add_one_of_lt hf
  rw [csvCols_first, hg c List.mem_cons_self _ (atSep_flatMap cs),
    csvCols_sep cs (fun x hx => hg x (List.mem_cons_of_mem _ hx)) n (Nat.lt_of_succ_lt_succ hf)]

theorem csvCols_parse (c : List Char) (cs : List (List Char)) (hg : ∀ x ∈ c :: cs, GoodCol x) :
    csvCols (2 * (c ++ cs.flatMap (',' :: ·)).length + 3) (c ++ cs.flatMap (',' :: ·)) false = c :: cs :=
  csvCols_line c cs hg _ (by
    have := length_le_flatMap (',' :: ·) cs fun _ _ => List.cons_ne_nil _ _
    rw [List.length_append]; omega)

theorem parseCsvLine_cols (c : List Char) (cs : List (List Char)) (hg : ∀ x ∈ c :: cs, GoodCol x)
    (ht : Tight (c ++ cs.flatMap (',' :: ·))) (hh : (c ++ cs.flatMap (',' :: ·)).head? ≠ some '#') :
    parseCsvLine (c ++ cs.flatMap (',' :: ·)) = some ((c :: cs).map fun x => unquote (trim x)) := by
  unfold parseCsvLine
  simp only [ht.trim_eq]
  rw [csvCols_parse c cs hg, if_neg, List.map_cons, if_neg]
  · exact Bool.false_ne_true
  · rw [Bool.or_eq_true, decide_eq_true_eq, List.isEmpty_iff]
    exact fun h => h.elim ht.1 hh

/-! ### the lines of a text -/

theorem splitLines_go_append (cur l t : List Char) (h : '\n' ∉ l) :
    splitLines.go cur (l ++ t) = splitLines.go (l.reverse ++ cur) t := by
  induction l generalizing cur with
  | nil => rfl
  | cons c cs ih =>
    show (if c = '\n' then _ else splitLines.go (c :: cur) (cs ++ t)) = _
    rw [if_neg fun e : c = '\n' => h (e ▸ List.mem_cons_self), ih _ fun h' => h (List.mem_cons_of_mem _ h'), List.reverse_cons,
      List.append_assoc]
    rfl

theorem splitLines_go_line (l rest : List Char) (h : '\n' ∉ l) :
    splitLines.go [] (l ++ '\n' :: rest) = l :: splitLines.go [] rest := by
  rw [splitLines_go_append _ _ _ h, List.append_nil]
  show l.reverse.reverse :: _ = _
  rw [List.reverse_reverse]

theorem splitLines_go_end (l : List Char) (h : '\n' ∉ l) : splitLines.go [] l = [l] := by
  have := splitLines_go_append [] l [] h
  rw [List.append_nil, List.append_nil] at this
  rw [this]
  show [l.reverse.reverse] = _
  rw [List.reverse_reverse]

theorem splitLines_terminated (ls : List (List Char)) (h : ∀ l ∈ ls, '\n' ∉ l) :
    splitLines ((ls.map (· ++ ['\n'])).flatten) = ls ++ [[]] := by
  unfold splitLines
  induction ls with
  | nil => rfl
  | cons l rest ih =>
    rw [List.map_cons, List.flatten_cons, List.append_assoc, List.singleton_append,
      splitLines_go_line l _ (h l List.mem_cons_self), ih fun x hx => h x (List.mem_cons_of_mem _ hx)]
    rfl

end Casbin
